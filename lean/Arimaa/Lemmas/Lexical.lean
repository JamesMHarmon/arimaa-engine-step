import Arimaa.Impl.Text

/-!
The lexical layer of the diagram parser, on arbitrary text: `splitBar` cuts at the bars, `matchHeader` finds the
capture groups of `^\s*(\d+)([gswb])` exactly where `HeaderMatch` says (the three character classes are disjoint),
`parseUsize` reads ASCII digits up to `usize::MAX`, and `natDigits` writes what `parseUsize` reads back.
-/
namespace Arimaa
open Gen

theorem char_le_iff (a b : Char) : a ≤ b ↔ a.toNat ≤ b.toNat := Iff.rfl

theorem takeDropWhile_append {α : Type} (p : α → Bool) (a m : List α) (ha : ∀ x ∈ a, p x = true)
    (hm : ∀ x, m.head? = some x → p x = false) :
    (a ++ m).dropWhile p = m ∧ (a ++ m).takeWhile p = a := by
  rw [List.dropWhile_append_of_pos ha, List.takeWhile_append_of_pos ha]
  cases m with
  | nil => simp
  | cons y ys => simp [hm y rfl]

theorem mem_takeWhile_imp {α : Type} {p : α → Bool} {l : List α} {x : α}
    (h : x ∈ l.takeWhile p) : p x = true :=
  List.all_eq_true.mp (List.all_takeWhile (l := l) (p := p)) x h

theorem splitBar_eq (t : List Char) :
    splitBar t = t.takeWhile (· != '|') ::
      (match t.dropWhile (· != '|') with
       | [] => []
       | _ :: rest => splitBar rest) := by
  induction t with
  | nil => rfl
  | cons c cs ih =>
    rw [splitBar]
    by_cases hc : c = '|'
    · simp [hc]
    · rw [if_neg hc, ih]
      simp [hc]

theorem splitBar_ne_nil (t : List Char) : splitBar t ≠ [] := by
  rw [splitBar_eq]
  exact List.cons_ne_nil _ _

theorem splitBar_head (t : List Char) : (splitBar t).headD [] = t.takeWhile (· != '|') := by
  rw [splitBar_eq]
  rfl

theorem bne_bar_of_not_mem {a : List Char} (h : '|' ∉ a) : ∀ x ∈ a, (x != '|') = true :=
  fun _ hx => bne_iff_ne.mpr fun e => h (e ▸ hx)

theorem splitBar_nobar (a : List Char) (h : '|' ∉ a) : splitBar a = [a] := by
  have := takeDropWhile_append (· != '|') a [] (bne_bar_of_not_mem h) (by simp)
  rw [List.append_nil] at this
  rw [splitBar_eq, this.1, this.2]

theorem splitBar_append_bar (a rest : List Char) (h : '|' ∉ a) :
    splitBar (a ++ '|' :: rest) = a :: splitBar rest := by
  have := takeDropWhile_append (· != '|') a ('|' :: rest) (bne_bar_of_not_mem h) (by simp)
  rw [splitBar_eq, this.1, this.2]

theorem splitBar_length_le (t : List Char) : (splitBar t).length ≤ t.length + 1 := by
  induction t with
  | nil => exact Nat.le_refl 1
  | cons x xs ih =>
    unfold splitBar
    split
    · exact Nat.succ_le_succ ih
    · split
      · rename_i heq; rw [heq] at ih; exact Nat.le_succ_of_le ih
      · exact Nat.le_add_left 1 _

theorem splitBar_seg_length_le (t : List Char) : ∀ seg ∈ splitBar t, seg.length ≤ t.length := by
  induction t with
  | nil => simp [splitBar]
  | cons x xs ih =>
    unfold splitBar
    split
    · intro seg hs
      rcases List.mem_cons.mp hs with rfl | hs
      · exact Nat.zero_le _
      · exact Nat.le_succ_of_le (ih seg hs)
    · split
      · rename_i s0 rest heq
        rw [heq] at ih
        intro seg hs
        rcases List.mem_cons.mp hs with rfl | hs
        · exact Nat.succ_le_succ (ih s0 (List.mem_cons_self ..))
        · exact Nat.le_succ_of_le (ih seg (List.mem_cons_of_mem _ hs))
      · rename_i heq
        exact absurd heq (splitBar_ne_nil xs)

theorem oddElems_sublist {α : Type} (l : List α) : (oddElems l).Sublist l := by
  induction l using oddElems.induct with
  | case1 a b rest ih => exact (ih.cons_cons b).cons a
  | case2 l h =>
    unfold oddElems
    split
    · exact absurd rfl (h _ _ _)
    · exact List.nil_sublist l

theorem perl_tables_disjoint :
    ∀ r ∈ perlSpace, ∀ q ∈ perlDigit, r.2 < q.1 ∨ q.2 < r.1 := by decide +kernel

theorem not_space_of_digit (c : Char) (h : isPerlDigit c = true) : isPerlSpace c = false := by
  cases hs : isPerlSpace c with
  | false => rfl
  | true =>
    simp only [isPerlSpace, isPerlDigit, inRanges, List.any_eq_true, Bool.and_eq_true,
      decide_eq_true_eq] at h hs
    obtain ⟨q, hq, h1, h2⟩ := h
    obtain ⟨r, hr, h3, h4⟩ := hs
    have := perl_tables_disjoint r hr q hq
    omega

theorem side_not_digit : ∀ c ∈ headerSideChars, isPerlDigit c = false := by decide +kernel

/-- `seg` matches `^\s*(\d+)([gswb])` with capture groups `ds` and `c` -/
def HeaderMatch (seg ds : List Char) (c : Char) : Prop :=
  ∃ sp rest, seg = sp ++ ds ++ c :: rest ∧ (∀ x ∈ sp, isPerlSpace x = true) ∧ ds ≠ [] ∧
    (∀ x ∈ ds, isPerlDigit x = true) ∧ c ∈ headerSideChars

/-- the capture groups are found where the classes change: a digit is not a space, a side letter
not a digit -/
theorem matchHeader_of_match (seg ds : List Char) (c : Char) (h : HeaderMatch seg ds c) :
    matchHeader seg = some (ds, c) := by
  obtain ⟨sp, rest, rfl, hsp, hne, hds, hc⟩ := h
  obtain ⟨d, ds', rfl⟩ := List.exists_cons_of_ne_nil hne
  have h1 := takeDropWhile_append isPerlSpace sp ((d :: ds') ++ c :: rest) hsp
    (fun x hx => by cases hx; exact not_space_of_digit _ (hds _ (by simp)))
  have h2 := takeDropWhile_append isPerlDigit (d :: ds') (c :: rest) hds
    (fun x hx => by cases hx; exact side_not_digit _ hc)
  unfold matchHeader
  simp only [List.append_assoc, h1.1, h2.1, h2.2]
  simp [hc]

theorem match_of_matchHeader (seg ds : List Char) (c : Char) (h : matchHeader seg = some (ds, c)) :
    HeaderMatch seg ds c := by
  unfold matchHeader at h
  simp only at h
  split at h
  · rename_i c' tail hd
    split at h
    · rename_i hcond
      simp only [Option.some.injEq, Prod.mk.injEq] at h
      obtain ⟨h1, h2⟩ := h
      subst h2
      simp only [Bool.and_eq_true, Bool.not_eq_eq_eq_not, Bool.not_true] at hcond
      refine ⟨seg.takeWhile isPerlSpace, tail, ?_, ?_, ?_, ?_, ?_⟩
      · rw [List.append_assoc, ← h1, ← hd, List.takeWhile_append_dropWhile,
          List.takeWhile_append_dropWhile]
      · intro x hx; exact mem_takeWhile_imp hx
      · intro e; rw [h1, e] at hcond; simp at hcond
      · intro x hx; rw [← h1] at hx; exact mem_takeWhile_imp hx
      · simpa using hcond.2
    · cases h
  · cases h

theorem matchHeader_some_iff (seg ds : List Char) (c : Char) :
    matchHeader seg = some (ds, c) ↔ HeaderMatch seg ds c :=
  ⟨match_of_matchHeader seg ds c, matchHeader_of_match seg ds c⟩

theorem matchHeader_none_iff (seg : List Char) :
    matchHeader seg = none ↔ ¬ ∃ ds c, HeaderMatch seg ds c := by
  simp only [← matchHeader_some_iff, Option.eq_none_iff_forall_ne_some, Prod.forall, not_exists]

def decimalValue (ds : List Char) : Nat :=
  ds.foldl (fun acc c => acc * 10 + (c.toNat - '0'.toNat)) 0

theorem parseUsize_eq (ds : List Char) :
    parseUsize ds =
      if (∀ c ∈ ds, '0' ≤ c ∧ c ≤ '9') ∧ decimalValue ds ≤ usizeMax then some (decimalValue ds)
      else none := by
  simp only [parseUsize, decimalValue, List.all_eq_true, decide_eq_true_eq]
  by_cases h1 : ∀ c ∈ ds, '0' ≤ c ∧ c ≤ '9'
  · simp only [eq_true h1, true_and, if_true]
  · simp only [eq_false h1, false_and, if_false]

theorem parseUsize_singleton (c : Char) : parseUsize [c] = parseDigitChar c := by
  unfold parseUsize parseDigitChar
  simp only [List.all_cons, List.all_nil, Bool.and_true, decide_eq_true_eq, List.foldl_cons, List.foldl_nil,
    Nat.zero_mul, Nat.zero_add]
  split
  · rename_i h
    have : c.toNat ≤ 57 := h.2
    rw [if_pos (by unfold usizeMax; omega)]
  · rfl

theorem natDigits_eq (n : Nat) : natDigits n = Nat.toDigits 10 n := by
  simp [natDigits]

theorem natDigits_ne_nil (n : Nat) : natDigits n ≠ [] := by
  rw [natDigits_eq]; exact Nat.toDigits_ne_nil

theorem natDigits_ascii (n : Nat) (c : Char) (h : c ∈ natDigits n) : '0' ≤ c ∧ c ≤ '9' := by
  rw [natDigits_eq] at h
  have hd := Nat.isDigit_of_mem_toDigits (by decide) (by decide) h
  simp [Char.isDigit] at hd
  obtain ⟨h1, h2⟩ := hd
  rw [UInt32.le_iff_toNat_le] at h1 h2
  exact ⟨(char_le_iff _ _).mpr h1, (char_le_iff _ _).mpr h2⟩

theorem natDigits_no_bar (n : Nat) : '|' ∉ natDigits n :=
  fun h => absurd (natDigits_ascii n _ h) (by decide)

/-- the ASCII digits are the first range of the `\d` table -/
theorem natDigits_perlDigit (n : Nat) (c : Char) (h : c ∈ natDigits n) : isPerlDigit c = true := by
  have hc := natDigits_ascii n c h
  rw [char_le_iff, char_le_iff] at hc
  exact List.any_eq_true.mpr ⟨(48, 57), List.Mem.head _, by
    simp [show 48 ≤ c.toNat from hc.1, show c.toNat ≤ 57 from hc.2]⟩

theorem natDigits_lt10 (n : Nat) (h : n < 10) : natDigits n = [Char.ofNat (48 + n)] := by
  have : ∀ n : Fin 10, natDigits n.1 = [Char.ofNat (48 + n.1)] := by decide +kernel
  exact this ⟨n, h⟩

theorem decimalValue_natDigits (n : Nat) : decimalValue (natDigits n) = n := by
  have h := Nat.ofDigitChars_ten_toDigits (n := n)
  rw [Nat.ofDigitChars_eq_foldl] at h
  rw [natDigits_eq]
  unfold decimalValue
  have : (fun (acc : Nat) (c : Char) => acc * 10 + (c.toNat - '0'.toNat)) =
      (fun sofar c => 10 * sofar + (c.toNat - '0'.toNat)) := by
    funext a c; rw [Nat.mul_comm]
  rw [this]; exact h

theorem parseUsize_natDigits (n : Nat) :
    parseUsize (natDigits n) = if n ≤ usizeMax then some n else none := by
  rw [parseUsize_eq, decimalValue_natDigits]
  by_cases h : n ≤ usizeMax
  · rw [if_pos ⟨natDigits_ascii n, h⟩, if_pos h]
  · rw [if_neg fun hh => h hh.2, if_neg h]

end Arimaa
