import Arimaa.Spec.Machine

/-!
The symmetries of Arimaa at the level of the specification (property C11): the file mirror
(a ↔ h), the colour swap combined with the rank flip (rank r ↔ rank 9 - r, Gold ↔ Silver), and
their composition, with their actions on squares, directions, colours, boards, obligations, results
and on the turn machine.  Definitions only; the lemmas are in `Lemmas/SpecSymmetry.lean`.
-/
namespace Arimaa.Spec

inductive Sym where
  /-- reflect across the vertical axis: file a ↔ h, b ↔ g, … -/
  | mirror
  /-- exchange Gold and Silver and flip the ranks: rank 1 ↔ 8, 2 ↔ 7, … -/
  | swap
  /-- `mirror` after `swap` (a half turn of the board with the colours exchanged) -/
  | both
  deriving DecidableEq, Repr

namespace Sym

/-- on squares (the identity outside the board, so that it is an involution of all of `Nat`) -/
def sq (σ : Sym) (i : Nat) : Nat :=
  if i < 64 then
    match σ with
    | .mirror => (i / 8) * 8 + (7 - i % 8)
    | .swap => (7 - i / 8) * 8 + i % 8
    | .both => (7 - i / 8) * 8 + (7 - i % 8)
  else i

def dir : Sym → Dir → Dir
  | .mirror, .n => .n | .mirror, .e => .w | .mirror, .s => .s | .mirror, .w => .e
  | .swap, .n => .s | .swap, .e => .e | .swap, .s => .n | .swap, .w => .w
  | .both, .n => .s | .both, .e => .w | .both, .s => .n | .both, .w => .e

/-- on colours (`true` = Gold) -/
def col : Sym → Bool → Bool
  | .mirror, g => g
  | .swap, g => !g
  | .both, g => !g

def cell (σ : Sym) (c : Cell) : Cell := ⟨σ.col c.gold, c.piece⟩

/-- on boards: the piece on `i` goes to `σ i`, i.e. `(σ b) (σ i) = σ (b i)` -/
def board (σ : Sym) (b : Board) : Board := fun k => (b (σ.sq k)).map σ.cell

def pend (σ : Sym) : Pending → Pending
  | .none => .none
  | .pull q x => .pull (σ.sq q) x
  | .push q t => .push (σ.sq q) t

def res : Sym → Result → Result
  | .mirror, r => r
  | .swap, .goldWin => .silverWin | .swap, .silverWin => .goldWin
  | .both, .goldWin => .silverWin | .both, .silverWin => .goldWin

/-- on turn states: the step counter stays -/
def state (σ : Sym) (s : State) : State := ⟨σ.board s.board, σ.col s.gold, s.step, σ.pend s.pend⟩

def act (σ : Sym) : Act → Act
  | .move i d => .move (σ.sq i) (σ.dir d)
  | .pass => .pass

end Sym

end Arimaa.Spec
