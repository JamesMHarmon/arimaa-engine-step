import Arimaa.Props.C04
import Arimaa.Lemmas.RsAgreeResult
import Arimaa.Gen.Bridge.GameState_lost_all_rabbits
import Arimaa.Gen.Bridge.GameState_rabbit_at_goal

/-!
C04 for the regenerated code (`Gen/Rs.lean`, written from the Rust text on every run).  `C04_code_agrees` lists, as one
obligation, the agreements with the hand model of the functions C04 speaks of, so that a change of the Rust text that
alters behaviour breaks an obligation here without a test having to find the input; a corollary whose hypothesis names
a list the code returned also cites `Code.rule_only` / `Code.offered`.  (written by tools/mkrprops.py)
-/
namespace Arimaa
open GameState Arimaa.Gen.Rs Arimaa.Rt Arimaa.Gen.Bridge Spec

/-- the agreement theorems C04 rests on, about the CURRENT functions, as one obligation -/
theorem C04_code_agrees :
    (∀ s : GameState, GameState_is_terminal s = Res.guard s.isTerminalPanics s.isTerminal) ∧
    (∀ (s : GameState) (b : Board), GameState_has_move s b = Res.guard (s.hasMovePanics b) (s.hasMove b)) ∧
    (∀ (s : GameState) (b : Board), GameState_rabbit_at_goal s b = s.rabbitAtGoal b) ∧
    (∀ (s : GameState) (b : Board), GameState_lost_all_rabbits s b = s.lostAllRabbits b) :=
  ⟨Code.is_terminal,
   Code.has_move,
   bridge_GameState_rabbit_at_goal ▸ RsAgree.rabbit_at_goal,
   bridge_GameState_lost_all_rabbits ▸ RsAgree.lost_all_rabbits⟩

/-- **C04 for the code as it is now**: at the start of a turn, whatever the regenerated `is_terminal` returns is
the result of the official decision list (`Spec.result`) on the abstracted board -/
theorem C04_code_turn_start (s : GameState) (pp : PlayPhase) (hph : s.phase = .play pp) (hw : WF s.board)
    (h0 : pp.step = 0) (hpps : pp.pps = .none) (r : Option Terminal) (h : GameState_is_terminal s = .ok r) :
    r.map toSpecResult = Spec.result (absBoard s.board) s.p1Turn := by
  rw [Code.result h]
  exact C04_turn_start_spec s pp hph hw h0 hpps

end Arimaa
