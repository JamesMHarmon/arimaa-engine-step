-- GENERATED by /verif/tools/gen.py -- do not edit.  Bridge from the current text of `GameState::place` to the baseline text.
import Arimaa.Gen.Rs
import Arimaa.Gen.RsBase
import Arimaa.Gen.BridgeLadder
import Arimaa.Gen.Bridge.GameState_piece_board
import Arimaa.Gen.Bridge.PieceBoard_new
import Arimaa.Gen.Bridge.PieceBoardState_placement_bit
import Arimaa.Gen.Bridge.PlayPhase_initial
import Arimaa.Gen.Bridge.Zobrist_place_piece

namespace Arimaa.Gen.Bridge
open Arimaa Arimaa.Gen Arimaa.Rt

set_option maxHeartbeats 1000000 in
theorem bridge_GameState_place : @Rs.GameState_place = @RsBase.GameState_place := by
  funext a0 a1
  rs_ladder [Rs.GameState_place, RsBase.GameState_place, bridge_GameState_piece_board, bridge_PieceBoard_new, bridge_PieceBoardState_placement_bit, bridge_PlayPhase_initial, bridge_Zobrist_place_piece] [RsBase.GameState_piece_board, RsBase.PieceBoardState_placement_bit, RsBase.PieceBoard_new, RsBase.PlayPhase_initial, RsBase.Zobrist_place_piece] (cases a1) [Rs.GameState_place, RsBase.GameState_place, Rs.GameState_piece_board, Rs.PieceBoardState_placement_bit, Rs.PieceBoard_new, Rs.PieceBoard_piece_board, Rs.PlayPhase_initial, Rs.Zobrist_place_piece, Rs.piece_value, Rs.step_value, RsBase.GameState_piece_board, RsBase.PieceBoardState_placement_bit, RsBase.PieceBoard_new, RsBase.PieceBoard_piece_board, RsBase.PlayPhase_initial, RsBase.Zobrist_place_piece, RsBase.piece_value, RsBase.step_value]

end Arimaa.Gen.Bridge
