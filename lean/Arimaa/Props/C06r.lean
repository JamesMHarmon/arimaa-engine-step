import Arimaa.Props.C06
import Arimaa.Lemmas.RsAgreeOffered
import Arimaa.Lemmas.RsAgreeStep
import Arimaa.Lemmas.CodeRuleOnly
import Arimaa.Lemmas.RsAgreeGen
import Arimaa.Gen.Bridge.GameState_is_passing_like_action

/-!
C06 for the regenerated code (`Gen/Rs.lean`, written from the Rust text on every run).  `C06_code_agrees` lists, as one
obligation, the agreements with the hand model of the functions C06 speaks of, so that a change of the Rust text that
alters behaviour breaks an obligation here without a test having to find the input; a corollary whose hypothesis names
a list the code returned also cites `Code.rule_only` / `Code.offered`.  (written by tools/mkrprops.py)
-/
namespace Arimaa
open GameState Arimaa.Gen.Rs Arimaa.Rt Arimaa.Gen.Bridge

/-- the agreement theorems C06 rests on, about the CURRENT functions, as one obligation -/
theorem C06_code_agrees :
    (∀ (s : GameState) (cr : Bool), GameState_valid_actions_ s cr = Res.guard (s.validActions_Panics cr) (s.validActions_ cr)) ∧
    (∀ (s : GameState) (a : Action), GameState_take_action s a = Res.guard (s.takeActionPanics a) (s.takeAction a)) ∧
    (∀ (s : GameState) (pp : PlayPhase), s.phase = .play pp → ∀ a : Action, GameState_is_passing_like_action s a = Res.guard (s.isPassingLikeActionPanics pp a) (s.isPassingLikeAction pp a)) ∧
    (∀ (s : GameState) (cr : Bool), GameState_can_pass s cr = Res.guard (s.canPassPanics cr) (s.canPass cr)) :=
  ⟨Code.valid_actions_,
   Code.take_action,
   bridge_GameState_is_passing_like_action ▸ RsAgree.is_passing_like_action_eq,
   Code.can_pass⟩

/-- **C06 for the code as it is now**: the list of the regenerated `valid_actions` is a sublist, in the same
order, of the list of the regenerated `valid_actions_no_rep`, and every action withheld ends the turn -/
theorem C06_code_sublist_and_withheld (s : GameState) (pp : PlayPhase) (hph : s.phase = .play pp)
    (l l' : List Action) (hl : GameState_valid_actions s = .ok l) (hl' : GameState_valid_actions_no_rep s = .ok l') :
    List.Sublist l l' ∧ ∀ a ∈ l', a ∉ l → endsTurn pp a = true := by
  have h1 := Code.offered hl
  have h2 := Code.rule_only hl'
  subst h1 h2
  exact ⟨C06_sublist s, fun a hin hout => (C06_only_turn_ending_withheld s pp hph a hin hout).2⟩

end Arimaa
