import Arimaa.Props.C01
import Arimaa.Props.C12b

/-!
C01 (continued) — every offered step can be continued to a complete legal turn.

Rests on the pusher invariant `PlayInvP`: play invariant, no unsupported trap piece, and a pending
push always has its pusher.  All statements are about the rule-only list `validActionsNoRep`
(position repetition is not considered here).
-/
namespace Arimaa
open Spec GameState

/-- **A push is never started on the last step of a turn.**  On the fourth step (`step ≥ 3`) every
offered step either moves a piece of the mover or completes a pull; in particular the state after it
never has a pending push (`C12_turn_start_none`). -/
theorem C01_no_push_start_on_last_step (s : GameState) (pp : PlayPhase) (h : PlayInv s pp) (i : Nat) (d : Dir)
    (ha : Action.move i d ∈ s.validActionsNoRep) (hge : pp.step ≥ 3) :
    pushStart (absBoard s.board) s.p1Turn pp.step i (dirSpec d) = false ∧
    ∃ c, absBoard s.board i = some c ∧
      (c.gold = s.p1Turn ∨ pullEnd (absBoard s.board) s.p1Turn (absPend pp.pps) i (dirSpec d) = true) := by
  have hps : pushStart (absBoard s.board) s.p1Turn pp.step i (dirSpec d) = false :=
    Bool.eq_false_iff.2 fun hh => by have := ((pushStart_iff ..).1 hh).1; omega
  obtain ⟨_, he⟩ := (C01_enabled_iff s pp h i d).mp ha
  obtain ⟨c, _, hc, _, _, k⟩ := enabled_cases _ _ _ _ _ _ he
  refine ⟨hps, c, hc, ?_⟩
  cases k with
  | own hg | pushEnd hg => exact Or.inl hg
  | pullEnd _ q x hp hpe => exact Or.inr (hp ▸ hpe)
  | pushStart _ _ _ hs => omega

/-- **A pending push has room and its completion ends it.**  If a push is pending in a state
satisfying the invariant then a step is still available in this turn (`step ≤ 3`, the list is not
empty), no pass is offered, and after every offered action nothing is pending any more. -/
theorem C01_push_has_room (s : GameState) (pp : PlayPhase) (h : PlayInvP s pp) (q : Nat) (v : Piece)
    (hp : pp.pps = .mustCompletePush q v) :
    pp.step ≤ 3 ∧ s.validActionsNoRep ≠ [] ∧ Action.pass ∉ s.validActionsNoRep ∧
    ∀ a, a ∈ s.validActionsNoRep →
      ∃ pp', (s.takeAction a).phase = .play pp' ∧ pp'.pps = .none := by
  refine ⟨h.1.step_le, (C12_push_pending_nonempty s pp h q v hp).2,
    (C12_push_pending_actions s pp h.1 q v hp).2, ?_⟩
  intro a ha
  -- on the machine the action is the completion of the push (`State.next_pend_of_push`)
  obtain ⟨a', pp', _, he, h', hs⟩ := sim_step s pp h.1 a ha
  exact ⟨pp', h'.phase, absPend_eq_none _ ((congrArg State.pend hs).trans
    (State.next_pend_of_push _ q (toSpec v) (congrArg absPend hp) a' he))⟩

/-- **Every offered step that does not end the turn leaves the mover an action.**  After an offered
step with `step < 3`, in the successor state (same mover, one more step made, invariant kept) either a
pass is offered, or a push is pending and a completion of it is offered (and no pass).  In both cases
the rule-only list is not empty. -/
theorem C01_completable (s : GameState) (pp : PlayPhase) (h : PlayInvP s pp) (i : Nat) (d : Dir)
    (ha : Action.move i d ∈ s.validActionsNoRep) (hlt : pp.step < 3) :
    ∃ pp', PlayInvP (s.takeAction (.move i d)) pp' ∧ pp'.step = pp.step + 1 ∧
      (s.takeAction (.move i d)).p1Turn = s.p1Turn ∧
      (Action.pass ∈ (s.takeAction (.move i d)).validActionsNoRep ∨
        ∃ q v, pp'.pps = .mustCompletePush q v ∧
          ∃ x d', x < 64 ∧ nbr x (dirSpec d') = some q ∧
            Action.move x d' ∈ (s.takeAction (.move i d)).validActionsNoRep) ∧
      (s.takeAction (.move i d)).validActionsNoRep ≠ [] := by
  obtain ⟨pp', h'⟩ := C12_pusher_invariant_step s pp h _ ha
  obtain ⟨_, hstep, hturn⟩ := sim_step_mid s pp h.1 i d ha hlt pp' h'.1.phase
  refine ⟨pp', h', hstep, hturn, ?_⟩
  cases hpps : pp'.pps with
  | mustCompletePush q v =>
    obtain ⟨⟨x, d', hx, hpe, hmem⟩, hne⟩ := C12_push_pending_nonempty _ pp' h' q v hpps
    obtain ⟨_, _, hnq, _⟩ := (C12_push_end_meaning _ _ _ _ _ _).mp hpe
    exact ⟨Or.inr ⟨q, v, rfl, x, d', hx, hnq, hmem⟩, hne⟩
  | _ =>
    have hpass : Action.pass ∈ (s.takeAction (.move i d)).validActionsNoRep := by
      rw [C01_pass_iff _ pp' h'.1.phase, hpps]
      simp [passEnabled, absPend, Pending.isPush, hstep]
    exact ⟨Or.inl hpass, List.ne_nil_of_mem hpass⟩

/-- **Every offered step can be continued to a complete turn.**  After any offered step, at most two
further actions, each taken from the rule-only list of the state where it is made, end the turn:
nothing (the step was the fourth), a pass, the completion of the push (as fourth step), or the
completion of the push followed by a pass.  The run ends at the first state of the opponent's turn. -/
theorem C01_turn_completable (s : GameState) (pp : PlayPhase) (h : PlayInvP s pp) (i : Nat) (d : Dir)
    (ha : Action.move i d ∈ s.validActionsNoRep) :
    ∃ as, as.length ≤ 2 ∧ OfferedNR (s.takeAction (.move i d)) as ∧
      AtTurnStart ((s.takeAction (.move i d)).run as) ∧
      ((s.takeAction (.move i d)).run as).p1Turn = !s.p1Turn := by
  by_cases hlt : pp.step < 3
  · obtain ⟨pp', h', hstep, hturn, key, _⟩ := C01_completable s pp h i d ha hlt
    rcases key with hpass | ⟨q, v, hpps, x, d', _, _, hmem⟩
    · obtain ⟨h1, h2⟩ := turnStart_of_endsTurn _ pp' h'.1.phase .pass rfl
      exact ⟨[.pass], by simp, ⟨hpass, trivial⟩, h1, by rw [run_cons, run_nil, h2, hturn]⟩
    · by_cases hlt' : pp'.step < 3
      · -- the completion, then a pass: `C01_completable` again for the state after the completion,
        -- `C01_push_has_room` for its status `none`
        obtain ⟨pp'', h'', _, hturn', key', _⟩ := C01_completable _ pp' h' x d' hmem hlt'
        obtain ⟨_, _, _, hnone⟩ := C01_push_has_room _ pp' h' q v hpps
        obtain ⟨pp3, hph3, hp3⟩ := hnone _ hmem
        have hpass := key'.resolve_right fun ⟨_, _, hq, _⟩ => by
          rw [play_inj h''.1.phase hph3, hp3] at hq; cases hq
        obtain ⟨h1, h2⟩ := turnStart_of_endsTurn _ pp'' h''.1.phase .pass rfl
        refine ⟨[.move x d', .pass], by simp, ⟨hmem, hpass, trivial⟩, h1, ?_⟩
        rw [run_cons, run_cons, run_nil, h2, hturn', hturn]
      · obtain ⟨h1, h2⟩ := turnStart_of_endsTurn _ pp' h'.1.phase (.move x d') (decide_eq_true (by omega))
        exact ⟨[.move x d'], by simp, ⟨hmem, trivial⟩, h1, by rw [run_cons, run_nil, h2, hturn]⟩
  · obtain ⟨h1, h2⟩ := turnStart_of_endsTurn s pp h.1.phase (.move i d) (decide_eq_true (by omega))
    exact ⟨[], by simp, trivial, h1, h2⟩

example : ∃ pp', PlayInvP (exC12b.takeAction (.move 27 .up)) pp' ∧ pp'.step = 1 :=
  let ⟨pp', h', hs, _⟩ := C01_completable _ _ exC12b_inv 27 .up (by decide +kernel) (by decide)
  ⟨pp', h', hs⟩

/-- after the push start no pass is offered, but the completion is -/
example : Action.pass ∉ (exC12b.takeAction (.move 27 .up)).validActionsNoRep ∧
    Action.move 35 .up ∈ (exC12b.takeAction (.move 27 .up)).validActionsNoRep := by decide +kernel

/-- after an ordinary step a pass is offered -/
example : Action.pass ∈ (exC12b.takeAction (.move 35 .left)).validActionsNoRep := by decide +kernel

end Arimaa
