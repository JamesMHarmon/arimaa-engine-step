-- GENERATED by /verif/tools/gen.py -- do not edit.  Bridge from the current text of `Zobrist::initial` to the baseline text.
import Arimaa.Gen.Rs
import Arimaa.Gen.RsBase
import Arimaa.Gen.BridgeLadder

namespace Arimaa.Gen.Bridge
open Arimaa Arimaa.Gen Arimaa.Rt

set_option maxHeartbeats 1000000 in
theorem bridge_Zobrist_initial : @Rs.Zobrist_initial = @RsBase.Zobrist_initial := by
  rs_ladder [Rs.Zobrist_initial, RsBase.Zobrist_initial] [] (skip) [Rs.Zobrist_initial, RsBase.Zobrist_initial]

end Arimaa.Gen.Bridge
