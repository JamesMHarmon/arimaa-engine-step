import Arimaa.Props.C15
import Arimaa.Lemmas.RsAgreeTHash
import Arimaa.Lemmas.CodeHash
import Arimaa.Lemmas.RsAgreeShow
import Arimaa.Lemmas.RsAgreeParse
import Arimaa.Gen.Bridge.GameState_from_str

/-!
C15 for the regenerated code (`Gen/Rs.lean`, written from the Rust text on every run).  `C15_code_agrees` lists, as one
obligation, the agreements with the hand model of the functions C15 speaks of, so that a change of the Rust text that
alters behaviour breaks an obligation here without a test having to find the input; a corollary whose hypothesis names
a list the code returned also cites `Code.rule_only` / `Code.offered`.  (written by tools/mkrprops.py)
-/
namespace Arimaa
open GameState Arimaa.Gen.Rs Arimaa.Rt Arimaa.Gen.Bridge

/-- the statement of `RsAgree.value_of_ok` under this property's name; cite that one -/
theorem C15_value_of_ok {α : Type} {x : Res α} {p : Bool} {v w : α} (h : x = Res.guard p v) (hx : x = .ok w) :
    p = false ∧ w = v :=
  RsAgree.value_of_ok h hx

/-- the agreement theorems C15 rests on, about the CURRENT functions, as one obligation -/
theorem C15_code_agrees :
    (∀ s : GameState, GameState_transposition_hash s = Res.guard s.transpositionHashPanics s.transpositionHash) ∧
    (∀ (b : Board) (p1 : Bool) (step : Nat), Zobrist_from_piece_board b p1 step = Res.guard (zFromPieceBoardPanics b step) (zFromPieceBoard b p1 step)) ∧
    (∀ (s : GameState) (f : List Char), GameState_fmt s f = .ok (f ++ showState s)) :=
  ⟨Code.transposition_hash, Code.from_piece_board, Code.fmt⟩

/-- the regenerated diagram parser (`FromStr for GameState`: `split('|')`, the header through `matchHeader`, the two
nested loops with their early `Err`, `parse()?`) agrees with the hand-written `parseState` on every text shorter than
2^60 characters (the cell index is a `usize` in the code) -/
theorem C15_code_parser_agrees (t : List Char) (hlen : t.length < 2 ^ 60) :
    GameState_from_str t = RsAgree.ofOutcome (parseState t) := by
  simp only [bridge_GameState_from_str]
  exact RsAgree.game_state_from_str t hlen

/-- **C15 (no crash) for the code as it is now**: the regenerated parser returns `Ok` or `Err` on EVERY text -
oversized or non-ASCII move numbers, any number of rows and cells, stray bars, non-ASCII cells -/
theorem C15_code_no_panic (t : List Char) (hlen : t.length < 2 ^ 60) : GameState_from_str t ≠ .panic := by
  rw [C15_code_parser_agrees t hlen]
  exact RsAgree.ofOutcome_ne_panic.mpr (C15_no_panic t).1

/-- **C15 (printing side) for the code as it is now**: the regenerated `Display for GameState` never panics and
appends exactly the diagram `showState s` the round-trip theorems are about -/
theorem C15_code_show (s : GameState) : GameState_fmt s [] = .ok (showState s) := by
  rw [Code.fmt, List.nil_append]

/-- **C15 (round trip) for the code as it is now**: parsing, with the regenerated parser, the diagram the
regenerated `Display` prints for a state with a well-formed board returns `Ok` of a state with the same board, side
and move number, which prints identically -/
theorem C15_code_roundtrip (s : GameState) (hw : WF s.board) (hn : s.moveNo ≤ usizeMax) (text : List Char)
    (hshow : GameState_fmt s [] = .ok text) (hlen : text.length < 2 ^ 60) :
    ∃ s', GameState_from_str text = .ok (some s') ∧ s'.board = s.board ∧ s'.p1Turn = s.p1Turn ∧
      s'.moveNo = s.moveNo ∧ GameState_fmt s' [] = .ok text := by
  rw [C15_code_show] at hshow
  have := Res.ok.inj hshow
  subst this
  obtain ⟨s', hp, hb, ht, hm, hs⟩ := C15_roundtrip s hw hn
  refine ⟨s', ?_, hb, ht, hm, ?_⟩
  · exact (C15_code_parser_agrees _ hlen).trans (RsAgree.ofOutcome_eq_ok_some.mpr hp)
  · rw [C15_code_show, hs]

end Arimaa
