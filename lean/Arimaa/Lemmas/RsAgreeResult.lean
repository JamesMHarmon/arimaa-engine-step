import Arimaa.Lemmas.RsAgreeGen
import Arimaa.Lemmas.RsAgreeRep
import Arimaa.Gen.Bridge.GameState_is_terminal

namespace Arimaa.RsAgree
open Arimaa.Gen.RsBase Arimaa.Rt

theorem has_move_eq (s : GameState) (b : Board) :
    GameState_has_move s b = Res.guard (s.hasMovePanics b) (s.hasMove b) := by
  unfold GameState_has_move GameState.hasMovePanics GameState.hasMove
  cases hp : s.phase with
  | place => rfl
  | play pp =>
    simp only [is_must_complete_push, must_complete_push_actions_eq s pp hp, has_non_passing_like_action_eq s pp hp,
      can_pass_eq, extend_with_valid_curr_player_piece_moves, extend_with_pull_piece_actions_eq s pp hp,
      extend_with_push_piece_actions s pp _ _ hp, bind_guard_guard, bind_guard_ok, cond_guard, cond_ok_guard]
    -- `rw`, not `simp`: see `valid_actions__of`
    rw [List.nil_append, List.nil_append]
    simp only [Bool.cond_eq_ite]

theorem is_terminal_eq (s : GameState) : GameState_is_terminal s = Res.guard s.isTerminalPanics s.isTerminal := by
  unfold GameState_is_terminal GameState.isTerminalPanics GameState.isTerminal
  rw [as_play_phase]
  unfold GameState.playPhase?
  cases hp : s.phase with
  | place => rfl
  | play pp =>
    simp only [game_state_piece_board, play_phase_step, blt_eq_decide, has_move_eq, rabbit_at_goal,
      lost_all_rabbits, Bool.cond_decide]
    split
    · rfl
    · cases s.rabbitAtGoal s.board <;> cases s.lostAllRabbits s.board <;> rfl

end Arimaa.RsAgree

namespace Arimaa.Code
open Arimaa.Gen.Rs Arimaa.Rt Arimaa.Gen.Bridge

theorem has_move (s : GameState) (b : Board) :
    GameState_has_move s b = Res.guard (s.hasMovePanics b) (s.hasMove b) :=
  bridge_GameState_has_move ▸ RsAgree.has_move_eq s b

theorem is_terminal (s : GameState) :
    GameState_is_terminal s = Res.guard s.isTerminalPanics s.isTerminal :=
  bridge_GameState_is_terminal ▸ RsAgree.is_terminal_eq s

theorem result {s : GameState} {r : Option Terminal} (h : GameState_is_terminal s = .ok r) : r = s.isTerminal :=
  RsAgree.eq_of_guard_eq_ok (is_terminal s) h

end Arimaa.Code
