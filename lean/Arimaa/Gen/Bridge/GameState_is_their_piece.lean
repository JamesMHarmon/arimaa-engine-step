-- GENERATED by /verif/tools/gen.py -- do not edit.  Bridge from the current text of `GameState::is_their_piece` to the baseline text.
import Arimaa.Gen.Rs
import Arimaa.Gen.RsBase
import Arimaa.Gen.BridgeLadder
import Arimaa.Gen.Bridge.is_p1_piece

namespace Arimaa.Gen.Bridge
open Arimaa Arimaa.Gen Arimaa.Rt

set_option maxHeartbeats 1000000 in
theorem bridge_GameState_is_their_piece : @Rs.GameState_is_their_piece = @RsBase.GameState_is_their_piece := by
  funext a0 a1 a2
  rs_ladder [Rs.GameState_is_their_piece, RsBase.GameState_is_their_piece, bridge_is_p1_piece] [RsBase.is_p1_piece] (skip) [Rs.GameState_is_their_piece, RsBase.GameState_is_their_piece, Rs.PieceBoardState_player_piece_mask, Rs.is_p1_piece, RsBase.PieceBoardState_player_piece_mask, RsBase.is_p1_piece]

end Arimaa.Gen.Bridge
