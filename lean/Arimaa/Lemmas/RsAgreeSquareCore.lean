import Arimaa.Gen.RsSq
import Arimaa.Lemmas.Bits

/-!
The externs of the engine translation, PROVED: `square.rs`, `bit_manip.rs` and
`action.rs::map_bit_board_to_squares` are translated too (`Gen/RsSq.lean`, same translator; the `while` loop of
`map_bit_board_to_squares` is a fuel-bounded `Rt.whileM`), and the rendering the engine translation assumes for
calls into them (`Rt.asBitBoard`, `sqOfBit`, `Rt.firstSetBit`, `squaresOf`, the identity for `index` /
`from_index`) is shown to be what the translated functions compute — for every argument.
-/
namespace Arimaa.RsAgree
open Arimaa.Gen Arimaa.Rt

theorem square_as_bit_board (sq : Nat) : RsSq.Square_as_bit_board sq = Rt.asBitBoard sq := rfl

theorem square_index (sq : Nat) : RsSq.Square_index sq = sq := rfl

theorem square_from_index (i : Nat) : RsSq.Square_from_index i = i := rfl

theorem first_set_bit (x : BB) : RsSq.first_set_bit x = Rt.firstSetBit x := by
  unfold RsSq.first_set_bit RsSq.single_bit_index_u64 Rt.shlU64 Rt.firstSetBit Arimaa.firstSetBit
  by_cases hx : x = 0
  · subst hx
    rw [tz64_zero]
    rfl
  · have : ¬ tz64 x ≥ 64 := fun h => hx ((tz64_ge_64_iff x).mp h)
    simp only [this, if_false, hx]
    rfl

theorem tz128_toNat (x : BB) (hx : x ≠ 0) : Rt.tz128 x.toNat = tz64 x := by
  obtain ⟨hlt, hbit, hlow⟩ := tz64_spec x hx
  have hfind : (List.range 128).find? (fun i => x.toNat.testBit i) = some (tz64 x) :=
    List.find?_range_eq_some.mpr ⟨hbit, List.mem_range.mpr (Nat.lt_trans hlt (by decide)),
      fun j hj => by simpa [bit, BitVec.getLsbD] using hlow j hj⟩
  unfold Rt.tz128
  rw [if_neg fun h0 : x.toNat = 0 => hx (BitVec.eq_of_toNat_eq h0), hfind]
  rfl

theorem square_from_bit_board (x : BB) : RsSq.Square_from_bit_board x = sqOfBit x := by
  unfold RsSq.Square_from_bit_board RsSq.single_bit_index sqOfBit
  by_cases hx : x = 0
  · subst hx; simp [Rt.tz128]
  · rw [if_neg hx, tz128_toNat x hx]
    have := (tz64_spec x hx).1
    omega

/-- `cond` and `body` are variables: the translated lambdas are `match`es on the state pair, which `hc` / `hbody` turn
into equations on its projections -/
theorem map_bit_board_loop (cond : List Nat × BB → Bool) (body : List Nat × BB → Res (List Nat × BB))
    (hc : ∀ st, cond st = (st.2 != 0))
    (hbody : ∀ st, body st = Res.bind (Rt.shlU64 1 (tz64 st.2)) (fun t1 =>
      Res.ok (st.1 ++ [tz64 st.2 % 256], st.2 ^^^ t1)))
    (fuel : Nat) (acc : List Nat) (b : BB) (hf : (squaresOf b).length < fuel) :
    Rt.whileM fuel (acc, b) cond body = Res.ok (acc ++ squaresOf b, 0#64) := by
  induction fuel generalizing acc b with
  | zero => omega
  | succ n ih =>
    unfold Rt.whileM
    rw [hc]
    by_cases hb : b = 0
    · subst hb
      rw [squaresOf_zero]
      simp
    · obtain ⟨hlt, _, _⟩ := tz64_spec b hb
      have hstep := squaresOf_lowest b hb
      rw [show ((acc, b).2 != 0) = true by simpa using hb, cond_true, hbody,
        show Rt.shlU64 1 (tz64 b) = .ok (1#64 <<< tz64 b) from if_neg (by omega), Res.bind_ok,
        Nat.mod_eq_of_lt (by omega : tz64 b < 256), Res.bind_ok, ih _ _ (by rw [hstep] at hf; simpa using hf), hstep]
      simp

theorem map_bit_board_to_squares_eq (x : BB) : RsSq.map_bit_board_to_squares x = .ok (squaresOf x) := by
  unfold RsSq.map_bit_board_to_squares
  have hlen : (squaresOf x).length < Rt.loopFuel := by
    have : (squaresOf x).length ≤ 64 := by
      unfold squaresOf
      exact Nat.le_trans (List.length_filter_le _ _) (by simp)
    unfold Rt.loopFuel; omega
  have h := map_bit_board_loop
    (fun (x : List Nat × BB) => match x with | (squares, board) => board != 0)
    (fun (x : List Nat × BB) => match x with
      | (squares, board) =>
        Res.bind (Rt.shlU64 1 (tz64 board)) (fun t1 =>
          Res.ok (squares ++ [RsSq.Square_from_index (tz64 board % 256)], board ^^^ t1)))
    (fun st => by cases st; rfl) (fun st => by cases st; rfl) Rt.loopFuel [] x hlen
  simp only [List.nil_append] at h
  show Res.bind (Rt.whileM Rt.loopFuel ([], x) _ _) _ = _
  rw [h]
  rfl

end Arimaa.RsAgree
