import Arimaa.Lemmas.RsAgreeHash
import Arimaa.Lemmas.RsAgreeNotation
import Arimaa.Lemmas.PanicSites
import Arimaa.Lemmas.ParsePrint
import Arimaa.Lemmas.IdxLoop

/-!
Agreement of the baseline translation with the hand model: `FromStr for GameState` (display.rs), the diagram parser.

The regular expression of the header is not translated: `Regex::new(r"^\s*(\d+)([gswb])")` is recognised as THE
pattern the hand-written matcher `matchHeader` (over the regex crate's own Unicode tables, regenerated) implements,
and `captures` is rendered as a call of it.  Everything else is the translation of the Rust text, the early
`return Err(..)` of the nested loops as `Rt.forRetM`.
The theorem holds for texts shorter than 2^60 characters (the cell index `row * 8 + col` is a `usize` in the code).
-/
namespace Arimaa.RsAgree
open Arimaa.Gen Arimaa.Gen.RsBase Arimaa.Rt

theorem splitOn_bar (t : List Char) : Rt.splitOn '|' t = splitBar t := by
  induction t with
  | nil => rfl
  | cons x xs ih => rw [Rt.splitOn, splitBar, ih]; rfl

theorem oddElems_enumerateFrom {α : Type} (l : List α) : ∀ n, n % 2 = 0 →
    List.map (fun (p : Nat × α) => p.2) (List.filter (fun (p : Nat × α) => (p.1 % 2) == 1) (Rt.enumerateFrom n l)) =
      oddElems l := by
  induction l using oddElems.induct with
  | case1 a b rest ih =>
    intro n hn
    have h1 : (n + 1) % 2 = 1 := by omega
    simp [Rt.enumerateFrom, hn, h1, oddElems, ih (n + 1 + 1) (by omega)]
  | case2 l h =>
    intro n hn
    match l with
    | [] => rfl
    | [a] => simp [Rt.enumerateFrom, hn, oddElems]
    | _ :: _ :: _ => exact absurd rfl (h _ _ _)

/-- in the shape the translation writes it: `enumerate()` and tuple patterns -/
theorem oddElems_enumerate {α : Type} (l : List α) :
    List.map (fun (x : Nat × α) => match x with | (_, s) => s)
      (List.filter (fun (x : Nat × α) => match x with | (i, _) => ((i % 2) == 1)) (Rt.enumerate l)) = oddElems l :=
  oddElems_enumerateFrom l 0 rfl

abbrev Acc := BB × BB × BB × BB × BB × BB × BB

@[reducible] def tup (cs : Cells) : Acc := (cs.e, cs.m, cs.h, cs.d, cs.c, cs.r, cs.p1)

/-- `B` bounds the index, so that the body's `usize` arithmetic on it is exact; `P` is a fact about each element that
the body may use (for the row loop: the length bound its inner loop needs as its own `B`). -/
theorem forRetM_idxLoop {α σ τ ρ : Type} {f : List α → Nat → σ → Option σ} {step : Nat → α → σ → Option σ}
    (hf : IdxLoop f step) (emb : σ → τ) (r0 : ρ) (B : Nat) (P : α → Prop) (F : τ → Nat × α → Res (ρ ⊕ τ))
    (hF : ∀ s k a, k < B → P a → F (emb s) (k, a) =
      (step k a s).elim (.ok (.inl r0)) fun s' => .ok (.inr (emb s')))
    (l : List α) (hP : ∀ a ∈ l, P a) (k : Nat) (s : σ) (hk : k + l.length ≤ B) :
    Rt.forRetM (Rt.enumerateFrom k l) (emb s) F =
      (f l k s).elim (.ok (.inl r0)) fun s' => .ok (.inr (emb s')) := by
  induction l generalizing k s with
  | nil => rw [hf.nil]; rfl
  | cons a l ih =>
    simp only [List.length_cons] at hk
    rw [hf.cons, Rt.enumerateFrom, Rt.forRetM, hF s k a (by omega) (hP a (List.mem_cons_self ..))]
    cases step k a s with
    | none => rfl
    | some s1 => exact ih (fun b hb => hP b (List.mem_cons_of_mem _ hb)) (k + 1) s1 (by omega)

theorem unwrap_find_true {α : Type} (l : List α) (h : l ≠ []) (d : α) :
    Rt.unwrap (List.find? (fun _ => true) l) = .ok (l.headD d) := by
  cases l with
  | nil => exact absurd rfl h
  | cons a r => rfl

theorem matchHeader_spec (seg ds : List Char) (side : Char) (h : matchHeader seg = some (ds, side)) :
    ds ≠ [] ∧ ∀ c ∈ ds, isPerlDigit c = true :=
  let ⟨_, _, _, _, hne, hds, _⟩ := match_of_matchHeader seg ds side h
  ⟨hne, hds⟩

theorem convert_char_to_piece_eq (ch : Char) :
    convert_char_to_piece ch = (charToPiece ch).map (fun p => (p, ch.isUpper)) := by
  unfold charToPiece
  split <;> first | rfl | (unfold convert_char_to_piece; simp only [*]; rfl)

theorem game_state_from_str (t : List Char) (hlen : t.length < 2 ^ 60) :
    GameState_from_str t = ofOutcome (parseState t) := by
  unfold GameState_from_str parseState
  simp only [splitOn_bar, oddElems_enumerate, unwrap_find_true (splitBar t) (splitBar_ne_nil t) [], Res.bind_ok,
    convert_char_to_piece_eq, ble_eq_decide, ← Bool.decide_or, Bool.cond_decide, asBitBoard_eq]
  have hsegs : 0 + (oddElems (splitBar t)).length ≤ 2 ^ 60 := by
    have h1 := (oddElems_sublist (splitBar t)).length_le
    have h2 := splitBar_length_le t
    omega
  have henum : ∀ {α : Type} (l : List α), Rt.enumerate l = Rt.enumerateFrom 0 l := fun _ => rfl
  -- the row loop is `parseRows` and, inside its step `hF`, the cell loop is `parseRowCells`: `forRetM_idxLoop` twice,
  -- with 2^60 as the bound under which `row * 8 + col` is exact in `usize`
  rw [henum, forRetM_idxLoop parseRows_loop tup none (2 ^ 60) (fun l => l.length ≤ t.length) _ ?hF
    (oddElems (splitBar t)) (fun l hl => splitBar_seg_length_le t l ((oddElems_sublist _).subset hl)) 0 {} hsegs]
  case hF =>
    intro cs row line hrow hline
    have hcells : 0 + (oddElems line).length ≤ 2 ^ 60 := by
      have := (oddElems_sublist line).length_le
      omega
    rw [henum, forRetM_idxLoop (parseRowCells_loop row) tup none (2 ^ 60) (fun _ => True) _ ?hC (oddElems line)
      (fun _ _ => trivial) 0 cs hcells]
    case hC =>
      intro cs2 col ch hcol _
      dsimp only
      rw [mulUsize_ok (by unfold BOARD_WIDTH; omega), Res.bind_ok, addUsize_ok (by unfold BOARD_WIDTH; omega),
        Res.bind_ok]
      unfold Arimaa.cellStep
      cases charToPiece ch with
      | none => rfl
      | some p =>
        simp only [Option.map]
        split
        · rfl
        · rename_i hb
          rw [show sqBitPanics ((row * BOARD_WIDTH + col) % 256) = false from
            decide_eq_false (by unfold BOARD_WIDTH BOARD_HEIGHT at *; omega)]
          cases p <;> cases ch.isUpper <;> rfl
    cases parseRowCells row (oddElems line) 0 cs <;> rfl
  have hz : ∀ (b : Board) (p1 : Bool), Zobrist_from_piece_board b p1 0 = .ok (zFromPieceBoard b p1 0) := by
    intro b p1
    rw [from_piece_board_eq, zFromPieceBoardPanics_eq]
    rfl
  have hne : ∀ c d : Char, ([c] != [d]) = (c != d) := fun c d => by simp [bne]
  simp only [Rt.unwrap, Res.bind_ok, cond_ok_ok, Bool.cond_false_right, show "s".toList = ['s'] from rfl,
    show "b".toList = ['b'] from rfl, hne, tup, piece_board_new, hz, play_phase_initial, game_state_new,
    PieceBoard_piece_board]
  cases hm : matchHeader ((splitBar t).headD []) with
  | none => cases parseRows (oddElems (splitBar t)) 0 {} <;> rfl
  | some c =>
    obtain ⟨hds, hd⟩ := matchHeader_spec _ c.1 c.2 hm
    simp only [parseUsize_agree_digits c.1 hds hd]
    cases Arimaa.parseUsize c.1 with
    | none => rfl
    | some n => cases parseRows (oddElems (splitBar t)) 0 {} <;> rfl

end Arimaa.RsAgree
