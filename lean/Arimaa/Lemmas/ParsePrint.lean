import Arimaa.Lemmas.Types
import Arimaa.Lemmas.Start
import Arimaa.Lemmas.IdxLoop

/-!
The diagram parser `parseState` against the printer `showState`.  On arbitrary text the grid is rejected iff a piece
letter lies outside the 8×8 grid, and otherwise represents (`Rep`) the board `gridBoard t` of the sampled characters.
The printed text has the eight row bodies between its bars, so its grid is the cells of the board; in the round trip
the boards agree because a board is determined by what it represents.
-/
namespace Arimaa
open Gen

def cellStep (r k : Nat) (ch : Char) (cs : Cells) : Option Cells :=
  match charToPiece ch with
  | some p =>
    if r ≥ BOARD_HEIGHT ∨ k ≥ BOARD_WIDTH then none
    else some (cs.add p ch.isUpper (sqBit ((r * BOARD_WIDTH + k) % 256)))
  | none => some cs

theorem parseRowCells_loop (r : Nat) : IdxLoop (parseRowCells r) (cellStep r) where
  nil _ _ := rfl
  cons ch l k cs := by
    rw [parseRowCells, cellStep]
    cases charToPiece ch with
    | none => rfl
    | some p => dsimp only; split <;> rfl

theorem parseRows_loop :
    IdxLoop parseRows (fun r line cs => parseRowCells r (oddElems line) 0 cs) where
  nil _ _ := rfl
  cons line l r cs := by
    rw [parseRows]
    cases parseRowCells r (oddElems line) 0 cs <;> rfl

theorem Cells.add_eq (cs : Cells) (p : Piece) (u : Bool) (x : BB) :
    cs.add p u x =
      { p1 := if u then cs.p1 ||| x else cs.p1
        e := if p = .elephant then cs.e ||| x else cs.e
        m := if p = .camel then cs.m ||| x else cs.m
        h := if p = .horse then cs.h ||| x else cs.h
        d := if p = .dog then cs.d ||| x else cs.d
        c := if p = .cat then cs.c ||| x else cs.c
        r := if p = .rabbit then cs.r ||| x else cs.r } := by
  cases p <;> cases u <;> rfl

def charCell (ch : Char) : Option Spec.Cell := (charToPiece ch).map fun p => ⟨ch.isUpper, toSpec p⟩

theorem Cells.plane_empty (π : Plane) : ({} : Cells).board.plane π = 0 := by
  cases π with
  | type f => cases f <;> rfl
  | _ => rfl

theorem Cells.plane_add (π : Plane) (cs : Cells) (p : Piece) (u : Bool) (x : BB) :
    (cs.add p u x).board.plane π =
      if π.shows (some ⟨u, toSpec p⟩) then cs.board.plane π ||| x else cs.board.plane π := by
  rw [Cells.add_eq]
  cases π with
  | p1 => rfl
  | type f =>
    simp only [Plane.shows, toSpec_beq, decide_eq_true_eq]
    cases f <;> rfl
  | all =>
    cases p <;> simp only [Cells.board, Board.new, Board.plane, Plane.shows, reduceCtorEq, if_true, if_false] <;>
      ac_rfl

theorem cellStep_none_iff (r k : Nat) (ch : Char) (cs : Cells) :
    cellStep r k ch cs = none ↔ (charToPiece ch).isSome = true ∧ (8 ≤ r ∨ 8 ≤ k) := by
  unfold cellStep
  cases charToPiece ch with
  | none => simp
  | some p =>
    simp only [board_width_eq, board_height_eq, ite_eq_left_iff, reduceCtorEq, imp_false, Classical.not_not,
      Option.isSome_some, true_and]

theorem cellStep_plane (π : Plane) (i r k : Nat) (ch : Char) (cs cs' : Cells)
    (h : cellStep r k ch cs = some cs') :
    bit (cs'.board.plane π) i = true ↔ bit (cs.board.plane π) i = true ∨
      (π.shows (charCell ch) = true ∧ k < 8 ∧ i = r * 8 + k) := by
  unfold cellStep at h
  unfold charCell
  cases hcp : charToPiece ch with
  | none => rw [hcp] at h; cases h; simp [Plane.shows_none]
  | some p =>
    rw [hcp] at h
    simp only [board_width_eq, board_height_eq] at h
    split at h
    · cases h
    · have hlt : r * 8 + k < 64 := by omega
      -- `% 256` is the `as u8` of display.rs; inside the grid it does nothing
      rw [Nat.mod_eq_of_lt (by omega)] at h
      cases h
      rw [Cells.plane_add, Option.map_some]
      cases π.shows (some ⟨ch.isUpper, toSpec p⟩)
      · simp
      · simp [bit_or, sqBit_bit _ _ hlt, show k < 8 by omega]

/-- the grid the parser samples: odd bar-separated segments are rows, odd characters of a row are cells -/
def cellAt (t : List Char) (r c : Nat) : Option Char :=
  ((oddElems (splitBar t))[r]?).bind (fun line => (oddElems line)[c]?)

theorem cellAt_eq_some (t : List Char) (r c : Nat) (ch : Char) :
    cellAt t r c = some ch ↔
      ∃ line, (oddElems (splitBar t))[r]? = some line ∧ (oddElems line)[c]? = some ch :=
  Option.bind_eq_some_iff

def PieceOutside (t : List Char) : Prop :=
  ∃ r c ch, cellAt t r c = some ch ∧ (charToPiece ch).isSome = true ∧ (8 ≤ r ∨ 8 ≤ c)

theorem gridOf_eq_none_iff (t : List Char) : gridOf t = none ↔ PieceOutside t := by
  rw [gridOf, Option.map_eq_none_iff, parseRows_loop.none_iff fun r line cs =>
    (parseRowCells_loop r).none_iff (cellStep_none_iff r) (oddElems line) cs]
  unfold PieceOutside
  simp only [cellAt_eq_some]
  exact ⟨fun ⟨j, line, h1, k, ch, h2, h3⟩ => ⟨j, k, ch, ⟨line, h1, h2⟩, h3⟩,
    fun ⟨j, k, ch, ⟨line, h1, h2⟩, h3⟩ => ⟨j, line, h1, k, ch, h2, h3⟩⟩

def gridBoard (t : List Char) : Spec.Board := fun i => (cellAt t (i / 8) (i % 8)).bind charCell

theorem gridOf_rep (t : List Char) (b : Board) (hb : gridOf t = some b) : Rep b (gridBoard t) := by
  obtain ⟨cs, h, rfl⟩ := Option.map_eq_some_iff.mp hb
  intro i π
  -- what the two loops accumulate (`IdxLoop.acc`, rows around cells): bit `i` of plane `π` is set at the end iff
  -- it was at the start (never: `plane_empty`) or some sampled character, row `j` column `k < 8` (a letter further
  -- right stops the loop), shows on `π` and `i = j * 8 + k`
  rw [Bool.eq_iff_iff, parseRows_loop.acc (M := fun cs => bit (cs.board.plane π) i = true)
    (fun r line cs cs' h => (parseRowCells_loop r).acc (cellStep_plane π i r) (oddElems line) cs cs' h)
    _ _ _ h, Cells.plane_empty]
  simp only [bit_zero, Bool.false_eq_true, false_or, gridBoard]
  constructor
  · rintro ⟨j, line, g1, k, ch, g2, g3, hk, rfl⟩
    rw [show (j * 8 + k) / 8 = j by omega, show (j * 8 + k) % 8 = k by omega,
      (cellAt_eq_some t j k ch).mpr ⟨line, g1, g2⟩]
    exact g3
  · intro g
    cases hc : cellAt t (i / 8) (i % 8) with
    | none => rw [hc] at g; cases g
    | some ch =>
      rw [hc] at g
      obtain ⟨line, g1, g2⟩ := (cellAt_eq_some t _ _ ch).mp hc
      exact ⟨i / 8, line, g1, i % 8, ch, g2, g, Nat.mod_lt _ (by decide), (Nat.div_add_mod' i 8).symm⟩

theorem parseState_no_panic (t : List Char) : parseState t ≠ .panic := by
  rw [parseState_eq]
  split <;> nofun

theorem parseState_err_iff (t : List Char) :
    parseState t = .err ↔ headerOf t = none ∨ PieceOutside t := by
  rw [← gridOf_eq_none_iff, parseState_eq]
  cases headerOf t <;> cases gridOf t <;> simp

theorem parseState_rep (t : List Char) (s : GameState) (h : parseState t = .ok s) :
    Rep s.board (gridBoard t) := by
  obtain ⟨n, g, b, _, hb, rfl⟩ := (parseState_ok_iff t s).mp h
  exact gridOf_rep t b hb

theorem parseState_wf (t : List Char) (s : GameState) (h : parseState t = .ok s) : WF s.board :=
  (parseState_rep t s h).wf

theorem parseState_startOk (t : List Char) (s : GameState) (h : parseState t = .ok s) : StartOk s :=
  (startOk_iff s).mpr ⟨parseState_wf t s h, parseState_eq_diagramState t s h⟩

theorem charCell_pieceToLetter (p : Piece) (u : Bool) :
    charCell (pieceToLetter p u) = some ⟨u, toSpec p⟩ := by
  cases p <;> cases u <;> decide

theorem cellChar_eq (b : Board) (hw : WF b) (i : Nat) (hi : i < 64) :
    cellChar b i =
      (match typeAt b i with
       | some t => pieceToLetter t (bit b.p1 i)
       | none => if Spec.isTrap i then 'x' else ' ') := by
  unfold cellChar
  rw [pieceTypeAtSquare_eq b hw i hi, show isP1Piece (sqBit i) b = bit b.p1 i from sqBit_and_ne_zero _ i hi,
    show displayTrapIdx.contains i = Spec.isTrap i by
      simp only [displayTrapIdx, Spec.isTrap, List.contains_cons, List.contains_nil, Bool.or_false, Bool.or_assoc]]
  rfl

theorem charCell_cellChar (b : Board) (hw : WF b) (i : Nat) (hi : i < 64) :
    charCell (cellChar b i) = absBoard b i := by
  rw [cellChar_eq b hw i hi, absBoard_apply]
  cases typeAt b i with
  | none => show charCell (if Spec.isTrap i then 'x' else ' ') = none; split <;> rfl
  | some p => exact charCell_pieceToLetter p _

theorem cellChar_ne_bar (b : Board) (i : Nat) : cellChar b i ≠ '|' := by
  unfold cellChar
  split
  · rename_i p _
    intro h
    have := charCell_pieceToLetter p (isP1Piece (sqBit i) b)
    rw [h] at this
    cases this
  · split <;> decide

def rowBody (b : Board) (row : Nat) : List Char :=
  (List.range 8).flatMap (fun col => [' ', cellChar b (row * 8 + col)]) ++ [' ']

theorem oddElems_rowBody (b : Board) (row : Nat) :
    oddElems (rowBody b row) = (List.range 8).map (fun col => cellChar b (row * 8 + col)) := by
  unfold rowBody
  generalize List.range 8 = l
  induction l with
  | nil => rfl
  | cons a l ih => simp [List.flatMap_cons, oddElems, ih]

theorem rowBody_no_bar (b : Board) (row : Nat) : '|' ∉ rowBody b row := by
  unfold rowBody
  simp only [List.mem_append, List.mem_flatMap, List.mem_cons, List.not_mem_nil, or_false]
  rintro (⟨col, _, h | h⟩ | h)
  · exact absurd h (by decide)
  · exact cellChar_ne_bar _ _ h.symm
  · exact absurd h (by decide)

theorem showRow_append (b : Board) (row : Nat) (X : List Char) :
    showRow b row ++ X = natDigits (8 - row) ++ '|' :: (rowBody b row ++ '|' :: '\n' :: X) := by
  simp [showRow, rowBody, board_width_eq, board_height_eq]

theorem rows_append_bars (a b rest : List Char) (ha : '|' ∉ a) (hb : '|' ∉ b) :
    oddElems (splitBar (a ++ '|' :: (b ++ '|' :: rest))) = b :: oddElems (splitBar rest) := by
  rw [splitBar_append_bar _ _ ha, splitBar_append_bar _ _ hb]
  rfl

/-- the rank digit of a row lands in the segment the previous row left open, hence the prefix `pre` -/
theorem rows_printed (b : Board) (F : List Char) (hF : '|' ∉ F) (k : Nat) :
    ∀ (r : Nat) (pre : List Char), '|' ∉ pre →
      oddElems (splitBar (pre ++ ((List.range' r k).flatMap (showRow b) ++ F))) =
        (List.range' r k).map (rowBody b) := by
  induction k with
  | zero =>
    intro r pre hpre
    rw [List.range'_zero, List.flatMap_nil, List.nil_append, splitBar_nobar _ (by simp [hpre, hF])]
    rfl
  | succ k ih =>
    intro r pre hpre
    rw [List.range'_succ, List.flatMap_cons, List.append_assoc, showRow_append, ← List.append_assoc,
      rows_append_bars _ _ _ (by
        simp only [List.mem_append, not_or]; exact ⟨hpre, natDigits_no_bar _⟩) (rowBody_no_bar b r),
      List.map_cons]
    exact congrArg _ (ih (r + 1) ['\n'] (by decide))

theorem border_no_bar : '|' ∉ border := by
  unfold border
  rw [String.toList_ofList]
  decide

theorem rows_showState (s : GameState) :
    oddElems (splitBar (showState s)) = (List.range 8).map (rowBody s.board) := by
  have hF : '|' ∉ border ++ "   a b c d e f g h\n".toList := by
    rw [String.toList_ofList, List.mem_append, not_or]
    exact ⟨border_no_bar, by decide⟩
  have hpre : '|' ∉ natDigits s.moveNo ++ [if s.p1Turn then 'g' else 's', '\n'] ++ border := by
    have := natDigits_no_bar s.moveNo
    cases s.p1Turn <;> simp [this, border_no_bar]
  have := rows_printed s.board _ hF 8 0 _ hpre
  rw [← List.range_eq_range'] at this
  rw [← this]
  simp only [showState, board_height_eq, List.append_assoc]

theorem cellAt_showState (s : GameState) (r c : Nat) :
    cellAt (showState s) r c =
      if r < 8 ∧ c < 8 then some (cellChar s.board (r * 8 + c)) else none := by
  unfold cellAt
  rw [rows_showState]
  by_cases hr : r < 8
  · rw [List.getElem?_map, List.getElem?_range hr]
    simp only [Option.map_some, Option.bind_some, oddElems_rowBody, hr, true_and]
    by_cases hc : c < 8
    · rw [List.getElem?_map, List.getElem?_range hc, if_pos hc]; rfl
    · rw [if_neg hc, List.getElem?_eq_none (by simpa using hc)]
  · rw [if_neg (fun h => hr h.1), List.getElem?_eq_none (by simpa using hr)]; rfl

theorem gridBoard_showState (s : GameState) (hw : WF s.board) :
    gridBoard (showState s) = absBoard s.board := by
  funext i
  unfold gridBoard
  rw [cellAt_showState]
  by_cases hi : i < 64
  · rw [if_pos ⟨Nat.div_lt_of_lt_mul hi, Nat.mod_lt _ (by decide)⟩, Nat.div_add_mod' i 8]
    exact charCell_cellChar _ hw i hi
  · rw [if_neg (by omega), absBoard_ge _ _ (by omega)]
    rfl

theorem gridOf_showState (s : GameState) (hw : WF s.board) : gridOf (showState s) = some s.board := by
  cases hg : gridOf (showState s) with
  | none =>
    obtain ⟨r, c, ch, hcell, _, hout⟩ := (gridOf_eq_none_iff _).mp hg
    rw [cellAt_showState] at hcell
    split at hcell
    · omega
    · cases hcell
  | some b => rw [(gridOf_rep _ b hg).unique (gridBoard_showState s hw ▸ hw.rep)]

theorem headerMatch_digits_side (ds rest : List Char) (c : Char) (hne : ds ≠ [])
    (hd : ∀ x ∈ ds, isPerlDigit x = true) (hbar : '|' ∉ ds) (hc : c ∈ headerSideChars) :
    HeaderMatch ((ds ++ c :: rest).takeWhile (· != '|')) ds c := by
  have hcb : (c != '|') = true := by
    have : ∀ c ∈ headerSideChars, (c != '|') = true := by decide
    exact this c hc
  rw [List.takeWhile_append_of_pos (bne_bar_of_not_mem hbar), List.takeWhile_cons_of_pos (p := (· != '|')) hcb]
  exact ⟨[], _, rfl, nofun, hne, hd, hc⟩

/-- all of a printed state that the header regex reads; the rest stays a variable -/
theorem showState_eq_header_append (s : GameState) :
    ∃ rest, showState s = natDigits s.moveNo ++ (if s.p1Turn then 'g' else 's') :: rest := by
  refine Exists.intro ?_ ?h
  case h =>
    rw [showState, List.append_assoc, List.append_assoc, List.append_assoc, List.append_assoc]
    rfl

theorem headerMatch_showState (s : GameState) :
    HeaderMatch ((showState s).takeWhile (· != '|')) (natDigits s.moveNo)
      (if s.p1Turn then 'g' else 's') := by
  obtain ⟨rest, h⟩ := showState_eq_header_append s
  rw [h]
  exact headerMatch_digits_side _ _ _ (natDigits_ne_nil _) (natDigits_perlDigit _) (natDigits_no_bar _)
    (by cases s.p1Turn <;> decide)

theorem headerOf_showState (s : GameState) :
    headerOf (showState s) = (parseUsize (natDigits s.moveNo)).map fun n => (n, s.p1Turn) := by
  have hside : ((if s.p1Turn then 'g' else 's') != 's' && (if s.p1Turn then 'g' else 's') != 'b') =
      s.p1Turn := by
    cases s.p1Turn <;> decide
  rw [headerOf_match (headerMatch_showState s), hside]

theorem parseState_showState_eq (s : GameState) (hw : WF s.board) (hn : s.moveNo ≤ usizeMax) :
    parseState (showState s) = .ok (diagramState s.moveNo s.p1Turn s.board) := by
  rw [parseState_eq, headerOf_showState, parseUsize_natDigits, if_pos hn, gridOf_showState s hw]
  rfl

/-- why the round trip needs `moveNo ≤ usizeMax`: a larger move number (only the model has one: the code's counter
overflows first, finding F4) prints to a header the parser rejects -/
theorem parseState_showState_big (s : GameState) (hn : usizeMax < s.moveNo) :
    parseState (showState s) = .err := by
  rw [parseState_err_iff, headerOf_showState, parseUsize_natDigits, if_neg (Nat.not_le.mpr hn)]
  exact .inl rfl

end Arimaa
