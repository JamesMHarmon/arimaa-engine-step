-- GENERATED by /verif/tools/gen.py -- do not edit.  Bridge from the current text of `PieceBoard::initial` to the baseline text.
import Arimaa.Gen.Rs
import Arimaa.Gen.RsBase
import Arimaa.Gen.BridgeLadder

namespace Arimaa.Gen.Bridge
open Arimaa Arimaa.Gen Arimaa.Rt

set_option maxHeartbeats 1000000 in
theorem bridge_PieceBoard_initial : @Rs.PieceBoard_initial = @RsBase.PieceBoard_initial := by
  rs_ladder [Rs.PieceBoard_initial, RsBase.PieceBoard_initial] [] (skip) [Rs.PieceBoard_initial, RsBase.PieceBoard_initial]

end Arimaa.Gen.Bridge
