import Arimaa.Lemmas.RsAgreeBoard
import Arimaa.Gen.Bridge.GameState_transposition_hash

namespace Arimaa.RsAgree
open Arimaa.Gen.RsBase Arimaa.Rt

theorem transposition_hash_eq (s : GameState) :
    GameState_transposition_hash s = Res.guard s.transpositionHashPanics s.transpositionHash := by
  unfold GameState_transposition_hash GameState.transpositionHashPanics GameState.transpositionHash
  cases s.phase with
  | place => rfl
  | play pp => exact zobrist_with_pps _ _

end Arimaa.RsAgree

namespace Arimaa.Code
open Arimaa.Gen.Rs Arimaa.Rt Arimaa.Gen.Bridge

theorem transposition_hash (s : GameState) :
    GameState_transposition_hash s = Res.guard s.transpositionHashPanics s.transpositionHash :=
  bridge_GameState_transposition_hash ▸ RsAgree.transposition_hash_eq s

end Arimaa.Code
