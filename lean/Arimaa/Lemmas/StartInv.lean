import Arimaa.Lemmas.Enabled
import Arimaa.Lemmas.Start

/-!
The play invariant holds at a start state (a parsed position, `StartOk`).
-/
namespace Arimaa
open Gen GameState

theorem StartOk.playInv {s : GameState} (h : StartOk s) : PlayInv s (PlayPhase.initial s.hash [s.hash]) :=
  ⟨h.phase, h.wf, trivial, Nat.zero_le _⟩

end Arimaa
