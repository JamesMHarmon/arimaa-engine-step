-- GENERATED by /verif/tools/gen.py -- do not edit.  Bridge from the current text of `GameState::take_action` to the baseline text.
import Arimaa.Gen.Rs
import Arimaa.Gen.RsBase
import Arimaa.Gen.BridgeLadder
import Arimaa.Gen.Bridge.GameState_move_piece
import Arimaa.Gen.Bridge.GameState_pass
import Arimaa.Gen.Bridge.GameState_place

namespace Arimaa.Gen.Bridge
open Arimaa Arimaa.Gen Arimaa.Rt

set_option maxHeartbeats 1000000 in
theorem bridge_GameState_take_action : @Rs.GameState_take_action = @RsBase.GameState_take_action := by
  funext a0 a1
  rs_ladder [Rs.GameState_take_action, RsBase.GameState_take_action, bridge_GameState_move_piece, bridge_GameState_pass, bridge_GameState_place] [RsBase.GameState_move_piece, RsBase.GameState_pass, RsBase.GameState_place]

end Arimaa.Gen.Bridge
