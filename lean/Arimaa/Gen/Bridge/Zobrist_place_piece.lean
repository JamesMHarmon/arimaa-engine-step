-- GENERATED by /verif/tools/gen.py -- do not edit.  Bridge from the current text of `Zobrist::place_piece` to the baseline text.
import Arimaa.Gen.Rs
import Arimaa.Gen.RsBase
import Arimaa.Gen.BridgeLadder
import Arimaa.Gen.Bridge.piece_value
import Arimaa.Gen.Bridge.step_value

namespace Arimaa.Gen.Bridge
open Arimaa Arimaa.Gen Arimaa.Rt

set_option maxHeartbeats 1000000 in
theorem bridge_Zobrist_place_piece : @Rs.Zobrist_place_piece = @RsBase.Zobrist_place_piece := by
  funext a0 a1 a2 a3 a4 a5
  rs_ladder [Rs.Zobrist_place_piece, RsBase.Zobrist_place_piece, bridge_piece_value, bridge_step_value] [RsBase.piece_value, RsBase.step_value] (cases a1 <;> cases a3 <;> cases a4 <;> cases a5) [Rs.Zobrist_place_piece, RsBase.Zobrist_place_piece, Rs.piece_value, Rs.step_value, RsBase.piece_value, RsBase.step_value]

end Arimaa.Gen.Bridge
