-- GENERATED by /verif/tools/gen.py -- do not edit.  Bridge from the current text of `PushPullState::can_push` to the baseline text.
import Arimaa.Gen.Rs
import Arimaa.Gen.RsBase
import Arimaa.Gen.BridgeLadder

namespace Arimaa.Gen.Bridge
open Arimaa Arimaa.Gen Arimaa.Rt

set_option maxHeartbeats 1000000 in
theorem bridge_PushPullState_can_push : @Rs.PushPullState_can_push = @RsBase.PushPullState_can_push := by
  funext a0
  rs_ladder [Rs.PushPullState_can_push, RsBase.PushPullState_can_push] [] (skip) [Rs.PushPullState_can_push, RsBase.PushPullState_can_push]

end Arimaa.Gen.Bridge
