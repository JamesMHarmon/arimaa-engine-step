import Arimaa.Lemmas.RsAgreeList

/-!
`C05_code_*` speak about the regenerated engine functions with the history as a Lean list.  This file closes the
remaining gap for values: the list type those functions use is `linked_list.rs`, regenerated on every run, and it
refines Lean lists on everything the API can build.
-/

namespace Arimaa.Props
open Arimaa.Rt Arimaa.Gen.RsList Arimaa.RsAgree.ListAgree

/-- **C05, code level (container).**  Recording a position (`append`) puts exactly that entry in front of the entries
already recorded and keeps all of them, in order; a new game starts with no entry. -/
theorem C05_code_history_container {T : Type} {l : Link T} (h : Built l) (x : T) (hb : (toList l).length + 1 ≤ usizeMax) :
    toList (List_new : Link T) = [] ∧
    ∃ l', List_append l x = .ok l' ∧ toList l' = x :: toList l ∧ Built l' ∧ List_len l' = (toList l).length + 1 := by
  obtain ⟨l', h1, h2, h3⟩ := built_append h x hb
  exact ⟨new_spec.1, l', h1, h2, h3, by rw [built_len h3, h2]; simp⟩

end Arimaa.Props
