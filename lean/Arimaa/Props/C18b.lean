import Arimaa.Props.C18
import Arimaa.Lemmas.ConcCount
import Arimaa.Lemmas.ConcExact
import Arimaa.Lemmas.ConcExactExample

/-!
# C18 (b), second conjunct — the reference-count discipline of the heap model `Impl/Conc.lean`

Under every schedule, no node reachable from a live handle — a shared root handle or a handle a thread
created itself with `clone` / `append` and has not dropped yet — is freed, no read, `clone` or `append` ever
touches a freed node, a node is freed only when its count is 0, and every decrement really decrements.
Together with `C18_interleaving_results` this is `C18_interleaving` below.

The proof is the count invariant `Conc.Inv` of `Lemmas/ConcCount.lean`, preserved by every atomic step of every
thread (`Conc.inv_step`).  Atomicity of each step (in particular of the decrement-and-test) is an assumption of
the model.
-/

namespace Arimaa.Props
open Arimaa.Conc

/-- **C18 (b4): the count invariant holds under every schedule.**  From a well-formed initial state
(`WellFormed`: all threads idle; the counts cover the root handles, the handles the threads start with and
the `next` links of the non-freed nodes; freed nodes have count 0; the threads' arenas are unused), after
any schedule: every live reference to a node is one of its counted owners (so a node with a live reference has a
positive count; that the count is the number of live references is `C18_count_exact`) and every freed node has
count 0. -/
theorem C18_count_invariant (s : State) (hwf : WellFormed s) (sched : List Nat) :
    (∀ id tok, Refs (abs (run s sched)) id tok → tok ∈ ((run s sched).arcs id).owners) ∧
    (∀ id, ((run s sched).arcs id).freed = true → ((run s sched).arcs id).count = 0) := by
  have h := inv_run sched s hwf.inv
  exact ⟨h.counted, fun id hf => congrArg List.length (h.freedEmpty id hf)⟩

/-- **C18 (b5): no node reachable from a live handle is ever freed.**  From a well-formed initial state, after
any schedule (so: at every moment of every interleaving), every node reachable by `next` links from the
target of a live handle — a root handle, or a handle in the table of any thread, whether the thread
was given it or made it itself by `clone` or `append` — is not freed and has a positive count. -/
theorem C18_no_live_node_freed (s : State) (hwf : WellFormed s) (sched : List Nat) (h id : NodeId)
    (hh : Held (run s sched) h) (hr : Reach (run s sched).fields h id) :
    ((run s sched).arcs id).freed = false ∧ 0 < ((run s sched).arcs id).count :=
  (inv_run sched s hwf.inv).held_alive hh hr

/-- **C18 (b6): no instruction touches a freed node.**  After any schedule, whatever node a reference of a
thread leads to (the node a `readElem` / `readLen` reads, a `clone` increments, an `append` links to —
and every node passed on the way there, which is what a shorter reference leads to) is allocated, not
freed, and has a positive count. -/
theorem C18_reads_not_freed (s : State) (hwf : WellFormed s) (sched : List Nat) (t : Nat) (th : Thread)
    (ht : (run s sched).threads[t]? = some th) (r : Ref) (j : NodeId)
    (hres : resolve (view t (run s sched).fields) (run s sched).roots th.loc.table r = some j) :
    ((run s sched).arcs j).freed = false ∧ 0 < ((run s sched).arcs j).count ∧
      ((run s sched).fields j).isSome := by
  have ⟨hne, hnf, hs⟩ := resolve_alive (inv_run sched s hwf.inv) ht hres
  exact ⟨hnf, List.length_pos_iff.2 hne, hs⟩

/-- **C18 (b7): a node is freed only at count 0, when nothing refers to it.**  If a step of thread `u` after
any schedule sets the `freed` flag of `id`, then just before that step the count of `id` was 0 and there
was no live reference to it: no handle, no `next` link of a non-freed node, no reference in the middle of
being dropped.  (Only the thread whose decrement brought the count to 0 gets here: `Arc::into_inner`.) -/
theorem C18_free_only_at_zero (s : State) (hwf : WellFormed s) (sched : List Nat) (u : Nat) (id : NodeId)
    (h0 : ((run s sched).arcs id).freed = false) (h1 : ((step (run s sched) u).arcs id).freed = true) :
    ((run s sched).arcs id).count = 0 ∧ ∀ tok, ¬ Refs (abs (run s sched)) id tok := by
  have h := inv_run sched s hwf.inv
  rcases step_freed h1 with hf | hf
  · rw [h0] at hf; cases hf
  · obtain ⟨th, hu, hrel⟩ := hf
    have ho : ((run s sched).arcs id).owners = [] := (h.freeing u id ((relOf_of hu).trans hrel)).1
    exact ⟨congrArg List.length ho, fun tok r => List.not_mem_nil (ho ▸ h.counted id tok r)⟩

/-- **C18 (b8): every decrement is a decrement.**  The model keeps the count as the length of a ghost list of
owners and a decrement erases the token of the reference given up; after any schedule that token is in
the list, so the step lowers the count by exactly 1 (the ghost list never makes a decrement a no-op). -/
theorem C18_dec_decrements (s : State) (hwf : WellFormed s) (sched : List Nat) (u : Nat) (th : Thread)
    (id : NodeId) (tok : Owner) (hu : (run s sched).threads[u]? = some th) (hr : th.rel = .dec id tok) :
    ((step (run s sched) u).arcs id).count + 1 = ((run s sched).arcs id).count := by
  have hm : tok ∈ ((run s sched).arcs id).owners :=
    (inv_run sched s hwf.inv).counted id tok (.pending (t := u) ((relOf_of hu).trans hr))
  rw [step_dec hu hr]
  show (upd (run s sched).arcs id _ id).owners.length + 1 = ((run s sched).arcs id).owners.length
  rw [upd_self]
  exact (List.length_erase_of_mem hm).symm ▸ Nat.sub_add_cancel (List.length_pos_of_mem hm)

/-- **C18 (b): `C18_interleaving`, full statement.**  For every well-formed initial state of the heap model
(any heap, any number of threads, any programs), every thread `t` and every schedule:
(1) whenever `t` has executed as many instructions as in a run of `k` steps alone from the same initial
state, its local state — the sequence of values it has read (`trace`), its remaining program, its
handles — is the same as in that sequential run; and
(2) no node reachable from a live handle (root handle, or handle of any thread) is freed: it is not freed,
and its count is positive. -/
theorem C18_interleaving (s : State) (hwf : WellFormed s) (t : Nat) (th0 : Thread) (h0 : s.threads[t]? = some th0)
    (sched : List Nat) (k : Nat) :
    (∃ a b, (run s sched).threads[t]? = some a ∧ (run s (List.replicate k t)).threads[t]? = some b ∧
      (a.loc.pc = b.loc.pc → a.loc = b.loc)) ∧
    (∀ h id, Held (run s sched) h → Reach (run s sched).fields h id →
      ((run s sched).arcs id).freed = false ∧ 0 < ((run s sched).arcs id).count) :=
  ⟨C18_interleaving_results s t th0 h0 sched k, fun h id hh hr => C18_no_live_node_freed s hwf sched h id hh hr⟩

/-- **C18 (b9): count = number of live references.**  From an initial state whose owner lists are exact
(`WellFormedX`: `WellFormed`, and the owner lists are duplicate-free and contain only root handles, thread
handles and `next` links of non-freed nodes; handle keys distinct and below the key counter), after any
schedule, for every node: its ghost owner list has no duplicates and its members are exactly the tokens of
the live references to the node — root handle `i` ↦ `root i`, handle `k` of thread `t` ↦ `handle t k` (one
target per key), `next` of the non-freed node `p` ↦ `node p`, and the reference a thread is in the middle of
giving up.  Hence the count is the number of live references (`rs` = any duplicate-free enumeration of
them), and it is 0 exactly when there is none: nothing is leaked either. -/
theorem C18_count_exact (s : State) (hwf : WellFormedX s) (sched : List Nat) (id : NodeId) :
    ((run s sched).arcs id).owners.Nodup ∧
    (∀ tok, tok ∈ ((run s sched).arcs id).owners ↔ Refs (abs (run s sched)) id tok) ∧
    (∀ rs : List Owner, rs.Nodup → (∀ tok, tok ∈ rs ↔ Refs (abs (run s sched)) id tok) →
      ((run s sched).arcs id).count = rs.length) ∧
    (((run s sched).arcs id).count = 0 ↔ ∀ tok, ¬ Refs (abs (run s sched)) id tok) := by
  have h := invX_run sched s hwf.invX
  have hiff : ∀ tok, tok ∈ ((run s sched).arcs id).owners ↔ Refs (abs (run s sched)) id tok :=
    fun tok => ⟨h.exact.onlyRefs id tok, h.inv.counted id tok⟩
  have hnd : ((run s sched).arcs id).owners.Nodup := h.exact.nodup id
  refine ⟨hnd, hiff, fun rs hrs hmem => List.Perm.length_eq
    ((List.perm_ext_iff_of_nodup hnd hrs).2 fun tok => (hiff tok).trans (hmem tok).symm), ?_⟩
  show ((run s sched).arcs id).owners.length = 0 ↔ _
  rw [List.length_eq_zero_iff, List.eq_nil_iff_forall_not_mem]
  exact forall_congr' fun tok => not_congr (hiff tok)

namespace C18bExample
open Arimaa.Conc.Example

theorem reach_private : Reach (run init [0, 0, 1, 1]).fields ⟨1, 0⟩ n0 := by
  have e1 : (run init [0, 0, 1, 1]).fields ⟨1, 0⟩ = some ⟨100, some n2, 4⟩ := by decide +kernel
  have e2 : (run init [0, 0, 1, 1]).fields n2 = some ⟨9, some n1, 3⟩ := by decide +kernel
  have e3 : (run init [0, 0, 1, 1]).fields n1 = some ⟨8, some n0, 2⟩ := by decide +kernel
  exact .step (.step (.step (.refl _) e1 rfl) e2 rfl) e3 rfl

example : WellFormed init := init_wellFormed

example : WellFormedX init := init_wellFormedX

/-- `C18_count_exact` at work: after both threads appended, the shared head `n2` has count 3 and its three
live references are the root handle and the `next` links of the two private nodes -/
example :
    ((run init [0, 0, 1, 1]).arcs n2).count = 3 ∧
    ∀ tok, tok ∈ [Owner.node ⟨2, 0⟩, .node ⟨1, 0⟩, .root 0] ↔ Refs (abs (run init [0, 0, 1, 1])) n2 tok := by
  have e : ((run init [0, 0, 1, 1]).arcs n2).owners = [Owner.node ⟨2, 0⟩, .node ⟨1, 0⟩, .root 0] := by
    decide +kernel
  refine ⟨by decide +kernel, fun tok => ?_⟩
  rw [← e]
  exact (C18_count_exact init init_wellFormedX [0, 0, 1, 1] n2).2.1 tok

/-- after `[0, 0, 1, 1]` thread 0 holds a handle it made itself (`append`), to its private node `⟨1, 0⟩`, from
which the whole shared history is reachable … -/
example : Held (run init [0, 0, 1, 1]) ⟨1, 0⟩ ∧ Reach (run init [0, 0, 1, 1]).fields ⟨1, 0⟩ n0 := by
  exact ⟨held_of_tableOf (t := 0) (k := 0) (by decide +kernel), reach_private⟩

/-- … so `C18_no_live_node_freed` applies to a thread-private handle -/
example : ((run init [0, 0, 1, 1]).arcs n0).freed = false ∧ 0 < ((run init [0, 0, 1, 1]).arcs n0).count := by
  exact C18_no_live_node_freed init init_wellFormed [0, 0, 1, 1] ⟨1, 0⟩ n0
    (held_of_tableOf (t := 0) (k := 0) (by decide +kernel)) reach_private

/-- `C18_interleaving` instantiated: thread 0 of the example under `schedA`, compared with 16 steps alone -/
example := C18_interleaving init init_wellFormed 0 _ rfl schedA 16

/-- frees do happen in the model (after the handles are dropped), and exactly at count 0: the hypotheses of
`C18_free_only_at_zero` are met by a step of `schedA` (its 27th step frees thread 0's private node), and
those of `C18_dec_decrements` by its 25th -/
example :
    ((run init (schedA.take 26)).arcs ⟨1, 0⟩).freed = false ∧
    ((step (run init (schedA.take 26)) 0).arcs ⟨1, 0⟩).freed = true ∧
    ((run init (schedA.take 26)).arcs ⟨1, 0⟩).count = 0 ∧
    relOf (run init (schedA.take 24)).threads 0 = .dec ⟨1, 0⟩ (.handle 0 1) ∧
    ((run init (schedA.take 24)).arcs ⟨1, 0⟩).count = 1 ∧
    ((step (run init (schedA.take 24)) 0).arcs ⟨1, 0⟩).count = 0 := by
  decide +kernel

/-- without the count discipline the conclusion fails: if the shared head starts with count 0 (not
well-formed: the root handle is not counted), a `clone` followed by a `drop` by one thread frees the
head under the root handle -/
example :
    let bad : State := { init with
      arcs := fun id => if id = n2 then {} else arcs0 id,
      threads := [{ loc := { prog := .clone ⟨.root 0, 0⟩ fun _ => .drop 0 .done } }] }
    Held (run bad [0, 0, 0, 0]) n2 ∧ ((run bad [0, 0, 0, 0]).arcs n2).freed = true := by
  refine ⟨.inl ⟨0, by decide +kernel⟩, by decide +kernel⟩

end C18bExample

end Arimaa.Props
