import Arimaa.Lemmas.Enabled
import Arimaa.Lemmas.Setup

/-!
The play invariant holds after the thirty-second offered placement (at a start state, `StartOk`:
Lemmas/StartInv.lean, apart so that the rules' properties stay free of the text model).
-/
namespace Arimaa

theorem setupRun_playInv {ps : List Piece} {s : GameState} (hr : SetupRun ps s)
    (h32 : ps.length = 32) : PlayInv s (PlayPhase.initial s.hash [s.hash]) :=
  ⟨(setupRun_final hr h32).2.2, setupRun_wf hr, trivial, Nat.zero_le _⟩

theorem playInv_of_setup {ps : List Piece} {s : GameState} (hr : SetupRun ps s) (h32 : ps.length = 32) :
    ∃ pp, PlayInv s pp ∧ pp.step = 0 :=
  ⟨_, setupRun_playInv hr h32, rfl⟩

end Arimaa
