import Arimaa.Lemmas.Abs
import Arimaa.Lemmas.Diagram

/-!
The states play starts from: what `from_str` and the 32nd placement produce.  `StartOk` says it as a predicate
(well-formed board, step 0, the from-scratch hash as `hash`, `initHash` and only history entry); `diagramState`
says it as a function of move number, side and board, and `startOk_iff` ties the two.
-/
namespace Arimaa

def zPos (b : Board) (side : Bool) : BB := zFromPieceBoard b side 0

structure StartOk (s0 : GameState) : Prop where
  wf : WF s0.board
  phase : s0.phase = .play (PlayPhase.initial s0.hash [s0.hash])
  hash : s0.hash = zPos s0.board s0.p1Turn

theorem startOk_iff (s : GameState) :
    StartOk s ↔ WF s.board ∧ s = diagramState s.moveNo s.p1Turn s.board := by
  constructor
  · rintro ⟨hw, hp, hh⟩
    refine ⟨hw, ?_⟩
    unfold zPos at hh
    cases s
    simp only [diagramState, GameState.mk.injEq, true_and] at hp hh ⊢
    exact ⟨by rw [hp, hh], hh⟩
  · rintro ⟨hw, he⟩
    rw [he]
    exact ⟨hw, rfl, rfl⟩

/-- The hypothesis is a `Bool` for the kernel: on a concrete text it is evaluated, comparing side, move
number and board only; hash and play-phase record then agree because both states are start states. -/
theorem parseState_eq_of_start (t : List Char) (s0 : GameState) (h0 : StartOk s0)
    (h : (match parseState t with
      | .ok s => decide (s.p1Turn = s0.p1Turn ∧ s.moveNo = s0.moveNo ∧ s.board = s0.board)
      | _ => false) = true) : parseState t = .ok s0 := by
  cases hp : parseState t with
  | ok s =>
    rw [hp] at h
    obtain ⟨h1, h2, h3⟩ := of_decide_eq_true h
    rw [parseState_eq_diagramState t s hp, ((startOk_iff s0).mp h0).2, h1, h2, h3]
  | err => rw [hp] at h; cases h
  | panic => rw [hp] at h; cases h

end Arimaa
