-- GENERATED by /verif/tools/gen.py -- do not edit.  Bridge from the current text of `GameState::piece_board` to the baseline text.
import Arimaa.Gen.Rs
import Arimaa.Gen.RsBase
import Arimaa.Gen.BridgeLadder
import Arimaa.Gen.Bridge.PieceBoard_piece_board

namespace Arimaa.Gen.Bridge
open Arimaa Arimaa.Gen Arimaa.Rt

set_option maxHeartbeats 1000000 in
theorem bridge_GameState_piece_board : @Rs.GameState_piece_board = @RsBase.GameState_piece_board := by
  funext a0
  rs_ladder [Rs.GameState_piece_board, RsBase.GameState_piece_board, bridge_PieceBoard_piece_board] [RsBase.PieceBoard_piece_board] (skip) [Rs.GameState_piece_board, RsBase.GameState_piece_board, Rs.PieceBoard_piece_board, RsBase.PieceBoard_piece_board]

end Arimaa.Gen.Bridge
