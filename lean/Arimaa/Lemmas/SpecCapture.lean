import Arimaa.Lemmas.SpecMachine

/-!
The capture rule of the specification leaves no unsupported trap piece (traps are never adjacent), and a step from a
position without unsupported trap pieces un-supports only what the mover supported (`hanging_move`), hence at most one
square (no square is adjacent to two traps).
-/
namespace Arimaa.Spec

def _root_.Arimaa.NoHanging (b : Spec.Board) : Prop :=
  ∀ k c, k < 64 → b k = some c → isTrap k = true → hasFriend b k c.gold = true

def _root_.Arimaa.hanging (b : Spec.Board) (k : Nat) : Bool :=
  match b k with
  | some c => isTrap k && !hasFriend b k c.gold
  | none => false

theorem hanging_iff (b : Spec.Board) (k : Nat) :
    hanging b k = true ↔ ∃ c, b k = some c ∧ isTrap k = true ∧ hasFriend b k c.gold = false := by
  unfold hanging
  cases b k with
  | none => simp
  | some c => simp

theorem capture_apply (b : Spec.Board) (k : Nat) : capture b k = if hanging b k then none else b k := by
  unfold capture hanging
  cases b k with
  | none => simp
  | some c => simp

theorem step_src_none (b : Spec.Board) (i j : Nat) (c : Cell) (hi : b i = some c) (hj : b j = none) :
    capture (move b i j) i = none := by
  have hij : i ≠ j := by intro e; rw [e, hj] at hi; cases hi
  unfold capture; rw [move_src _ _ _ hij]

theorem trap_nbr_not_trap (k j : Nat) (d : Spec.Dir) (ht : isTrap k = true)
    (hn : nbr k d = some j) : isTrap j = false := by
  have key : ∀ k : Fin 64, ∀ d ∈ Spec.Dir.all, isTrap k.1 = true → ∀ j ∈ nbr k.1 d, isTrap j = false := by
    decide +kernel
  exact key ⟨k, isTrap_lt k ht⟩ d d.mem_all ht j hn

theorem nbr_traps_eq (i k1 k2 : Nat) (d1 d2 : Spec.Dir) (hi : i < 64) (h1 : nbr i d1 = some k1)
    (h2 : nbr i d2 = some k2) (t1 : isTrap k1 = true) (t2 : isTrap k2 = true) : k1 = k2 := by
  have key : ∀ i : Fin 64, ∀ d1 ∈ Spec.Dir.all, ∀ k1 ∈ nbr i.1 d1, isTrap k1 = true →
      ∀ d2 ∈ Spec.Dir.all, ∀ k2 ∈ nbr i.1 d2, isTrap k2 = true → k1 = k2 := by decide +kernel
  exact key ⟨i, hi⟩ d1 d1.mem_all k1 h1 t1 d2 d2.mem_all k2 h2 t2

theorem capture_eq_of_not_trap (b : Spec.Board) (f : Nat) (h : isTrap f = false) : capture b f = b f := by
  rw [capture_apply, if_neg]
  intro hh
  obtain ⟨_, _, ht, _⟩ := (hanging_iff b f).mp hh
  rw [h] at ht; cases ht

theorem capture_some (b : Spec.Board) (k : Nat) (c : Cell) (h : capture b k = some c) :
    b k = some c ∧ (isTrap k = true → hasFriend b k c.gold = true) := by
  rw [capture_apply] at h
  split at h
  · cases h
  · rename_i hh
    refine ⟨h, fun ht => ?_⟩
    cases hf : hasFriend b k c.gold
    · exact absurd ((hanging_iff b k).mpr ⟨c, h, ht, hf⟩) hh
    · rfl

theorem noHanging_capture (b : Spec.Board) : NoHanging (capture b) := by
  intro k c hk hc ht
  obtain ⟨hbk, hfr⟩ := capture_some b k c hc
  have hf := hfr ht
  unfold hasFriend at hf ⊢
  rw [nbAny_iff] at hf ⊢
  obtain ⟨d, j, hn, ho⟩ := hf
  refine ⟨d, j, hn, ?_⟩
  have hjt := trap_nbr_not_trap k j d ht hn
  unfold ownedBy at ho ⊢
  rw [capture_eq_of_not_trap b j hjt]
  exact ho

theorem noHanging_applyStep (b : Spec.Board) (hb : NoHanging b) (i : Nat) (d : Spec.Dir) :
    NoHanging (applyStep b i d) := by
  unfold applyStep
  cases nbr i d with
  | none => exact hb
  | some j => exact noHanging_capture _

theorem State.noHanging_next (t : State) (h : NoHanging t.board) (a : Act) : NoHanging (t.next a).board := by
  cases a with
  | pass => exact h
  | move i d => rw [State.next_board]; exact noHanging_applyStep _ h i d

/-- every supporter of `k` other than the mover is where it was -/
theorem hanging_move (b : Spec.Board) (hb : NoHanging b) (i j k : Nat) (hej : b j = none) (ekj : k ≠ j)
    (hh : hanging (move b i j) k = true) :
    ∃ d c ck, nbr k d = some i ∧ b i = some c ∧ b k = some ck ∧ c.gold = ck.gold := by
  obtain ⟨ck, hc, ht, hf⟩ := (hanging_iff _ k).1 hh
  have eki : k ≠ i := by
    intro e; subst e; rw [move_src _ _ _ ekj] at hc; cases hc
  rw [move_other _ _ _ _ eki ekj] at hc
  obtain ⟨d, f, cf, hn, hbf, hg⟩ := (hasFriend_iff ..).1 (hb k ck (isTrap_lt k ht) hc ht)
  by_cases efi : f = i
  · subst efi; exact ⟨d, cf, ck, hn, hbf, hc, hg⟩
  · have efj : f ≠ j := by intro e; subst e; rw [hej] at hbf; cases hbf
    rw [(hasFriend_iff ..).2 ⟨d, f, cf, hn, by rw [move_other _ _ _ _ efi efj]; exact hbf, hg⟩] at hf
    cases hf

theorem at_most_one_hanging (b : Spec.Board) (hb : NoHanging b) (i j : Nat) (d : Spec.Dir) (hi : i < 64)
    (hn : nbr i d = some j) (hej : b j = none) (k1 k2 : Nat) (hk1 : k1 < 64) (hk2 : k2 < 64)
    (h1 : hanging (move b i j) k1 = true) (h2 : hanging (move b i j) k2 = true) : k1 = k2 := by
  -- an unsupported square is a trap, and it is the destination or next to the source
  have key : ∀ k, k < 64 → hanging (move b i j) k = true →
      isTrap k = true ∧ ∃ d', nbr i d' = some k := by
    intro k hk hh
    obtain ⟨_, _, ht, _⟩ := (hanging_iff _ k).1 hh
    refine ⟨ht, ?_⟩
    by_cases ekj : k = j
    · exact ⟨d, ekj ▸ hn⟩
    · obtain ⟨d', _, _, hn', _⟩ := hanging_move b hb i j k hej ekj hh
      exact ⟨d'.opp, nbr_opp k i d' hk hn'⟩
  obtain ⟨t1, d1, n1⟩ := key k1 hk1 h1
  obtain ⟨t2, d2, n2⟩ := key k2 hk2 h2
  exact nbr_traps_eq i k1 k2 d1 d2 hi n1 n2 t1 t2

end Arimaa.Spec

namespace Arimaa.TurnLemmas
open Spec

def noHangingB (b : Spec.Board) : Bool := (List.range 64).all fun k => !hanging b k

theorem noHanging_of_check (b : Spec.Board) (h : noHangingB b = true) : NoHanging b := by
  intro k c hk hc ht
  unfold noHangingB at h
  rw [List.all_eq_true] at h
  have hk' := h k (List.mem_range.2 hk)
  cases hf : hasFriend b k c.gold with
  | true => rfl
  | false =>
    have : hanging b k = true := (hanging_iff b k).2 ⟨c, hc, ht, hf⟩
    rw [this] at hk'; cases hk'

end Arimaa.TurnLemmas
