import Arimaa.Props.C06b
import Arimaa.Lemmas.SymExample
import Arimaa.Lemmas.SymRepetition
import Arimaa.Lemmas.SymResult

/-!
# C11 (repetition clause) — the symmetries respect what the repetition rules withhold

Property text (C11): mirroring a game (position and every action) across the vertical axis, or
swapping the colours while flipping the ranks, maps offered actions to offered actions, captures to
captures and results to the correspondingly swapped results at every step of the game, *including
which actions the repetition rules withhold*.

This file is about the emphasised clause in the middle of a turn (at the start of a turn the
repetition rules withhold nothing), for the offered list `validActions` (repetition rules on) of
every state of every game, and its two consequences (whole games through the offered lists;
`isTerminal` in the middle of a turn).

**FULL statement** (what C11 claims): for start states `s0`, `s0'` whose positions are `σ`-images of
each other and every game `as` played from `s0`, the image action `σ a` is offered after the image
game from `s0'` exactly when `a` is offered after `as` from `s0`.

**Proved here, PARTIAL**: the same with the added hypothesis `CollisionFreeAt` at the state reached
in the game and at the state reached in the image game: no start-of-turn position so far has the
64-bit Zobrist hash of a board that a turn-ending action leads to (with either side to move) unless
it is that very position.  The full statement is not provable for the implementation: the engine
decides repetition by comparing hashes, the Zobrist tables bear no relation to the symmetries, and
finding F8 (DESIGN.md §6; `C06_full_strength_is_false`) is a legal game at whose end a pass is
withheld only because of a hash collision; nothing forces the image game to have a collision at the
image position.  What is missing from full strength is exactly `CollisionFreeAt` on the two sides.

Method (`symRel_offered_rep`, Lemmas/SymRepetition.lean, for any two related states with related ghost lists):
the exact board-level characterisation of the offered list (`mem_validActions_iff_repeat`) on both sides; the
ghost lists of start-of-turn positions of the two games correspond entry by entry
(`ghostRel_run`), and the correspondence is bi-unique because a well-formed board is determined by
its abstraction (`absBoard_inj_of_wf`) and every symmetry is an involution, hence "equals the
turn-start board" and the number of earlier occurrences of the resulting position agree in the two
games.

The start states are related by: the abstract board of `s0'` is the `σ`-image of the abstract board
of `s0`, and the side to move is the image side (`StartOk` makes both of them step-0 play-phase
states with no push/pull status, so this is `SymRel` for them).
-/
namespace Arimaa
open Spec GameState

/-- **The repetition clause, PARTIAL: added hypotheses `hcf`, `hcf'` (`CollisionFreeAt` in the game
and in the image game).**  Full statement (not provable for the implementation, see the file header
and finding F8): the same without `hcf` and `hcf'`.

For start states `s0`, `s0'` whose positions are images of each other under the symmetry `σ`, and
every game `as` played from `s0` through actions of the rule-only lists (this includes every game
through offered actions): after the image game from `s0'`, the image of an action `a` is offered
(`validActions`, repetition rules on) if and only if `a` is offered after `as` from `s0`.  In
particular the repetition rules withhold the image of exactly the actions they withhold in the
original game. -/
theorem C11_repetition_partial (σ : Sym) (s0 s0' : GameState) (h0 : StartOk s0) (h0' : StartOk s0')
    (hb : absBoard s0'.board = σ.board (absBoard s0.board)) (ht : s0'.p1Turn = σ.col s0.p1Turn)
    (as : List Action) (ho : OfferedNR s0 as) (pp pp' : PlayPhase)
    (hph : (s0.run as).phase = .play pp) (hph' : (s0'.run (as.map σ.iact)).phase = .play pp')
    (hcf : CollisionFreeAt s0 as pp) (hcf' : CollisionFreeAt s0' (as.map σ.iact) pp') (a : Action) :
    σ.iact a ∈ (s0'.run (as.map σ.iact)).validActions ↔ a ∈ (s0.run as).validActions := by
  obtain ⟨q, q', hi, hi', hr, _, hg⟩ := symGame σ s0 s0' h0 h0' hb ht as ho
  obtain rfl := play_inj hph hi.inv.phase
  obtain rfl := play_inj hph' hi'.inv.phase
  exact symRel_offered_rep σ _ _ _ _ pp pp' hi hi' hr hg hcf hcf' a

/-- The same read from the image side: an action `a'` is offered after the image game exactly when
its image (`σ` is an involution) is offered in the original game.  PARTIAL, same added hypotheses. -/
theorem C11_repetition_image_partial (σ : Sym) (s0 s0' : GameState) (h0 : StartOk s0)
    (h0' : StartOk s0') (hb : absBoard s0'.board = σ.board (absBoard s0.board))
    (ht : s0'.p1Turn = σ.col s0.p1Turn) (as : List Action) (ho : OfferedNR s0 as) (pp pp' : PlayPhase)
    (hph : (s0.run as).phase = .play pp) (hph' : (s0'.run (as.map σ.iact)).phase = .play pp')
    (hcf : CollisionFreeAt s0 as pp) (hcf' : CollisionFreeAt s0' (as.map σ.iact) pp') (a' : Action) :
    a' ∈ (s0'.run (as.map σ.iact)).validActions ↔ σ.iact a' ∈ (s0.run as).validActions := by
  have := C11_repetition_partial σ s0 s0' h0 h0' hb ht as ho pp pp' hph hph' hcf hcf' (σ.iact a')
  rwa [iact_iact] at this

/-- **Whole games through the offered lists, PARTIAL: added hypotheses `hcf`, `hcf'`
(`CollisionFreeAt` at every prefix of the game and at every prefix of the image game).**  Full
statement: the same without `hcf` and `hcf'`.

Every action of the image list is offered (repetition rules on) when its turn comes in the game from
the image start state `s0'` if and only if every action of `as` is offered when its turn comes in the
game from `s0`.  (The final states are then images of each other by `C11_impl_game`.) -/
theorem C11_offered_games_iff_partial (σ : Sym) (s0 s0' : GameState) (h0 : StartOk s0)
    (h0' : StartOk s0') (hb : absBoard s0'.board = σ.board (absBoard s0.board))
    (ht : s0'.p1Turn = σ.col s0.p1Turn) (as : List Action)
    (hcf : ∀ bs, bs <+: as → ∀ pp, (s0.run bs).phase = .play pp → CollisionFreeAt s0 bs pp)
    (hcf' : ∀ bs, bs <+: as → ∀ pp', (s0'.run (bs.map σ.iact)).phase = .play pp' →
      CollisionFreeAt s0' (bs.map σ.iact) pp') :
    Offered s0' (as.map σ.iact) ↔ Offered s0 as := by
  refine offered_map_iff σ.iact s0 s0' as fun bs c hpre hbs => ?_
  have hpre : bs <+: as := (List.prefix_append bs [c]).trans hpre
  have honr := offered_offeredNR s0 bs hbs
  obtain ⟨pp, pp', hi, hi', _⟩ := symGame σ s0 s0' h0 h0' hb ht bs honr
  exact C11_repetition_partial σ s0 s0' h0 h0' hb ht bs honr pp pp' hi.inv.phase hi'.inv.phase
    (hcf bs hpre pp hi.inv.phase) (hcf' bs hpre pp' hi'.inv.phase) c

/-- One direction of `C11_offered_games_iff_partial`: the image of an offered game is an offered
game.  PARTIAL, same added hypotheses; full statement: without `hcf`, `hcf'`. -/
theorem C11_offered_games_partial (σ : Sym) (s0 s0' : GameState) (h0 : StartOk s0) (h0' : StartOk s0')
    (hb : absBoard s0'.board = σ.board (absBoard s0.board)) (ht : s0'.p1Turn = σ.col s0.p1Turn)
    (as : List Action) (ho : Offered s0 as)
    (hcf : ∀ bs, bs <+: as → ∀ pp, (s0.run bs).phase = .play pp → CollisionFreeAt s0 bs pp)
    (hcf' : ∀ bs, bs <+: as → ∀ pp', (s0'.run (bs.map σ.iact)).phase = .play pp' →
      CollisionFreeAt s0' (bs.map σ.iact) pp') :
    Offered s0' (as.map σ.iact) :=
  (C11_offered_games_iff_partial σ s0 s0' h0 h0' hb ht as hcf hcf').mpr ho

/-- **Results in the middle of a turn, PARTIAL: added hypotheses `hcf`, `hcf'` (`CollisionFreeAt` in
the game and in the image game).**  Full statement: the same without them.

In the middle of a turn (`step > 0`) `isTerminal` reports a result exactly when the offered list,
repetition rules on, is empty (`C07_mid_turn_result`), a loss for the player on move.  After the
image game, `isTerminal` is the image of `isTerminal` after the original game: the same under
`mirror`, winners exchanged under `swap` and `both`.  (At the start of a turn: `C11_impl_result`,
full strength.) -/
theorem C11_mid_turn_result_partial (σ : Sym) (s0 s0' : GameState) (h0 : StartOk s0)
    (h0' : StartOk s0') (hb : absBoard s0'.board = σ.board (absBoard s0.board))
    (ht : s0'.p1Turn = σ.col s0.p1Turn) (as : List Action) (ho : OfferedNR s0 as) (pp pp' : PlayPhase)
    (hph : (s0.run as).phase = .play pp) (hph' : (s0'.run (as.map σ.iact)).phase = .play pp')
    (hcf : CollisionFreeAt s0 as pp) (hcf' : CollisionFreeAt s0' (as.map σ.iact) pp')
    (hpos : pp.step > 0) :
    (s0'.run (as.map σ.iact)).isTerminal = (s0.run as).isTerminal.map σ.ires := by
  obtain ⟨q, q', hi, hi', hr, _⟩ := symGame σ s0 s0' h0 h0' hb ht as ho
  obtain rfl := play_inj hph hi.inv.phase
  obtain rfl := play_inj hph' hi'.inv.phase
  exact symRel_isTerminal_mid σ _ _ pp pp' hi.inv hi'.inv hr hpos
    (C11_repetition_partial σ s0 s0' h0 h0' hb ht as ho pp pp' hph hph' hcf hcf')

/-!
The example position `exModelBoard` (gold rabbit a7, silver rabbit c5 next to the gold elephant
d5, …) as a start state with Gold to move, and its half-turned, colour-swapped image (`σ = both`)
with Silver to move.  Game: the gold elephant pushes the rabbit c5 west (two
steps); in the image game the silver elephant e4 pushes the gold rabbit f4 east.  After the two steps
a pass is possible, so the repetition test is exercised. -/

attribute [local instance] decNoRep decOffered decCollisionFree

private def exS (b : Board) (g : Bool) : GameState :=
  { p1Turn := g, moveNo := 2, board := b, hash := zPos b g
    phase := .play (PlayPhase.initial (zPos b g) [zPos b g]) }

private theorem exS_start (b : Board) (g : Bool) (hw : WF b) : StartOk (exS b g) := ⟨hw, rfl, rfl⟩

private def exPush : List Action := [.move 26 .left, .move 27 .left]

private def exPP (s : GameState) : PlayPhase :=
  match s.phase with
  | .play pp => pp
  | .place => default

private theorem exS_wf : WF exModelBoard ∧ WF (exModelImage .both) :=
  ⟨(exModel_rel .both).1.wf, (exModel_rel .both).2.1.wf⟩

/-- all hypotheses of `C11_repetition_partial` hold for `σ = both`, the example start states and the
two-step push; the collision-freeness hypotheses are checked by evaluating the hashes -/
example :
    StartOk (exS exModelBoard true) ∧ StartOk (exS (exModelImage .both) false) ∧
    absBoard (exS (exModelImage .both) false).board = Sym.both.board (absBoard (exS exModelBoard true).board) ∧
    (exS (exModelImage .both) false).p1Turn = Sym.both.col (exS exModelBoard true).p1Turn ∧
    OfferedNR (exS exModelBoard true) exPush ∧
    ((exS exModelBoard true).run exPush).phase = .play (exPP ((exS exModelBoard true).run exPush)) ∧
    ((exS (exModelImage .both) false).run (exPush.map Sym.both.iact)).phase =
      .play (exPP ((exS (exModelImage .both) false).run (exPush.map Sym.both.iact))) ∧
    CollisionFreeAt (exS exModelBoard true) exPush (exPP ((exS exModelBoard true).run exPush)) ∧
    CollisionFreeAt (exS (exModelImage .both) false) (exPush.map Sym.both.iact)
      (exPP ((exS (exModelImage .both) false).run (exPush.map Sym.both.iact))) := by
  have h0 := exS_start _ true exS_wf.1
  have h0' := exS_start _ false exS_wf.2
  refine ⟨h0, h0', (exModel_rel .both).2.2.board, rfl, ?_⟩
  unfold CollisionFreeAt
  generalize hs : (exS exModelBoard true).run exPush = s
  generalize hG : turnStarts (exS exModelBoard true) exPush = G
  generalize hs' : (exS (exModelImage .both) false).run (exPush.map Sym.both.iact) = s'
  generalize hG' : turnStarts (exS (exModelImage .both) false) (exPush.map Sym.both.iact) = G'
  have h : Offered (exS exModelBoard true) exPush ∧ s.phase = .play (exPP s) ∧
      CollisionFree G (turnEndResults s (exPP s)) := by
    apply replay_all h0 hs hG
    decide +kernel
  have h' : s'.phase = .play (exPP s') ∧ CollisionFree G' (turnEndResults s' (exPP s')) := by
    apply replay_prop h0' hs' hG'
    decide +kernel
  exact ⟨offered_offeredNR _ _ h.1, h.2.1, h'.1, h.2.2, h'.2⟩

/-- ... and the conclusion is not trivially true or false there: the pass is offered in both games;
the backward step of the gold rabbit a7 (not in the rule-only list) and its image are offered in
neither. -/
example : Action.pass ∈ ((exS exModelBoard true).run exPush).validActions ∧
    Sym.both.iact .pass ∈ ((exS (exModelImage .both) false).run (exPush.map Sym.both.iact)).validActions ∧
    Action.move 8 .down ∉ ((exS exModelBoard true).run exPush).validActions ∧
    Sym.both.iact (.move 8 .down) ∉
      ((exS (exModelImage .both) false).run (exPush.map Sym.both.iact)).validActions := by
  generalize hs : (exS exModelBoard true).run exPush = s
  generalize hs' : (exS (exModelImage .both) false).run (exPush.map Sym.both.iact) = s'
  have h : Action.pass ∈ s.validActions ∧ Action.move 8 .down ∉ s.validActions := by
    generalize hG : turnStarts (exS exModelBoard true) exPush = G
    apply replay_prop (exS_start _ true exS_wf.1) hs hG
    decide +kernel
  have h' : Sym.both.iact .pass ∈ s'.validActions ∧ Sym.both.iact (.move 8 .down) ∉ s'.validActions := by
    generalize hG : turnStarts (exS (exModelImage .both) false) (exPush.map Sym.both.iact) = G
    apply replay_prop (exS_start _ false exS_wf.2) hs' hG
    decide +kernel
  exact ⟨h.1, h'.1, h.2, h'.2⟩

/-- a game in which the repetition rule bites: the gold elephant steps d5-e5, back, d5-e5 again -/
private def exBackForth : List Action := [.move 27 .right, .move 28 .left, .move 27 .right]

/-- there the theorem speaks about an action that the repetition rules withhold: the fourth step
e5-d5 would restore the turn-start board -/
example :
    OfferedNR (exS exModelBoard true) exBackForth ∧
    CollisionFreeAt (exS exModelBoard true) exBackForth (exPP ((exS exModelBoard true).run exBackForth)) ∧
    CollisionFreeAt (exS (exModelImage .both) false) (exBackForth.map Sym.both.iact)
      (exPP ((exS (exModelImage .both) false).run (exBackForth.map Sym.both.iact))) ∧
    Action.move 28 .left ∈ ((exS exModelBoard true).run exBackForth).validActionsNoRep ∧
    Action.move 28 .left ∉ ((exS exModelBoard true).run exBackForth).validActions ∧
    Sym.both.iact (.move 28 .left) ∈
      ((exS (exModelImage .both) false).run (exBackForth.map Sym.both.iact)).validActionsNoRep ∧
    Sym.both.iact (.move 28 .left) ∉
      ((exS (exModelImage .both) false).run (exBackForth.map Sym.both.iact)).validActions := by
  unfold CollisionFreeAt
  generalize hs : (exS exModelBoard true).run exBackForth = s
  generalize hG : turnStarts (exS exModelBoard true) exBackForth = G
  generalize hs' : (exS (exModelImage .both) false).run (exBackForth.map Sym.both.iact) = s'
  generalize hG' : turnStarts (exS (exModelImage .both) false) (exBackForth.map Sym.both.iact) = G'
  have h : Offered (exS exModelBoard true) exBackForth ∧ CollisionFree G (turnEndResults s (exPP s)) ∧
      Action.move 28 .left ∈ s.validActionsNoRep ∧ Action.move 28 .left ∉ s.validActions := by
    apply replay_all (exS_start _ true exS_wf.1) hs hG
    decide +kernel
  have h' : CollisionFree G' (turnEndResults s' (exPP s')) ∧
      Sym.both.iact (.move 28 .left) ∈ s'.validActionsNoRep ∧
      Sym.both.iact (.move 28 .left) ∉ s'.validActions := by
    apply replay_prop (exS_start _ false exS_wf.2) hs' hG'
    decide +kernel
  exact ⟨offered_offeredNR _ _ h.1, h.2.1, h'.1, h.2.2.1, h.2.2.2, h'.2.1, h'.2.2⟩

/-- the mid-turn hypothesis `step > 0` of `C11_mid_turn_result_partial` holds there -/
example : (exPP ((exS exModelBoard true).run exPush)).step > 0 := by decide +kernel

end Arimaa
