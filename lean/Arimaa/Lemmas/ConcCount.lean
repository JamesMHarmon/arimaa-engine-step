import Arimaa.Lemmas.Conc

/-! The reference-count invariant of the thread/heap model `Impl/Conc.lean` (property C18 b, second conjunct).  The
proof takes an atomic step apart into writes to one component of the abstract state each (a thread's release state,
the owners of a node, its `freed` flag, a thread's table, the fields of a new node with its arena counter), in an order
in which every intermediate state satisfies the invariant: references are given up before their tokens are erased, and
counted before they come into being. -/

namespace Arimaa.Conc

/-! Only the heap, the root handles and, per thread, its handle table, its release state and its arena
counter matter for the count discipline.  Threads that do not exist have no handles and are idle. -/

structure AState where
  fields : NodeId → Option Fields
  arcs : NodeId → Meta
  roots : List NodeId
  tbl : Nat → List (Nat × NodeId)
  rel : Nat → Rel
  actr : Nat → Option Nat

def tableOf (ths : List Thread) (t : Nat) : List (Nat × NodeId) :=
  match ths[t]? with
  | some th => th.loc.table
  | none => []

def relOf (ths : List Thread) (t : Nat) : Rel :=
  match ths[t]? with
  | some th => th.rel
  | none => .idle

/-- `none`, not a default counter, for a thread that does not exist: `Inv.fresh` then says nothing about its arena,
and an allocation (`AStep.alloc`) finds `some c` -/
def actrOf (ths : List Thread) (t : Nat) : Option Nat :=
  match ths[t]? with
  | some th => some th.loc.actr
  | none => none

def abs (s : State) : AState :=
  { fields := s.fields, arcs := s.arcs, roots := s.roots,
    tbl := tableOf s.threads, rel := relOf s.threads, actr := actrOf s.threads }

/-- a live strong reference to node `id`, identified by its ghost token -/
inductive Refs (a : AState) : NodeId → Owner → Prop where
  /-- held by the spawning thread for the whole run -/
  | root {i : Nat} {id : NodeId} : a.roots[i]? = some id → Refs a id (.root i)
  | handle {t k : Nat} {id : NodeId} : (k, id) ∈ a.tbl t → Refs a id (.handle t k)
  | link {p : NodeId} {f : Fields} {id : NodeId} :
      a.fields p = some f → f.next = some id → (a.arcs p).freed = false → Refs a id (.node p)
  /-- a reference thread `t` took out of its table, or out of a node it freed, and has not yet decremented -/
  | pending {t : Nat} {id : NodeId} {tok : Owner} : a.rel t = .dec id tok → Refs a id tok

/-- the node a thread is freeing / has just freed and whose `next` it still holds -/
def relNode : Rel → Option NodeId
  | .free p => some p
  | .dec _ (.node p) => some p
  | _ => none

structure Fresh (a : AState) (id : NodeId) : Prop where
  nofields : a.fields id = none
  noowners : (a.arcs id).owners = []
  notfreed : (a.arcs id).freed = false
  /-- nobody is about to free it either: an allocation there would otherwise break `Inv.freeing` -/
  nofree : ∀ t, a.rel t ≠ .free id

/-- **the count invariant** (one-sided: every live reference is counted).
* `counted`, `freedEmpty` are the invariant proper, what `C18_count_invariant` exports: a node with a live reference has
  a positive count, a freed node has count 0.  That the count is the number of live references needs `Exact`
  (`Lemmas/ConcExact.lean`) as well.
* `pendH`, `pendN`, `pendR` are there so that the token a thread is about to erase names no other live reference
  (`Inv.pending_unique`): a handle being released has left its owner's table, a `next` link being released comes out of
  a freed node, root handles are never released.
* `freeing`, `uniq`: a node is freed once, at count 0, by one thread.
* `fresh`: allocation bookkeeping (the unused part of every arena is untouched): what an allocation finds; the nodes
  the other writes touch have an owner or are being freed, so they are not in it (`Used`).

What these ask of one thread is `ThreadInv` (`Inv.threadInv`). -/
structure Inv (a : AState) : Prop where
  counted : ∀ id tok, Refs a id tok → tok ∈ (a.arcs id).owners
  freedEmpty : ∀ id, (a.arcs id).freed = true → (a.arcs id).owners = []
  pendH : ∀ t j u k, a.rel t = .dec j (.handle u k) → u = t ∧ ∀ id, (k, id) ∉ a.tbl t
  pendN : ∀ t j p, a.rel t = .dec j (.node p) → (a.arcs p).freed = true
  pendR : ∀ t j i, a.rel t ≠ .dec j (.root i)
  freeing : ∀ t p, a.rel t = .free p → (a.arcs p).owners = [] ∧ (a.arcs p).freed = false
  uniq : ∀ t u p, t ≠ u → relNode (a.rel t) = some p → relNode (a.rel u) ≠ some p
  fresh : ∀ t c i, a.actr t = some c → c ≤ i → Fresh a ⟨t + 1, i⟩

/-- a write to such an `id` keeps `Inv.fresh` -/
def Used (a : AState) (id : NodeId) : Prop :=
  ∀ t c i, a.actr t = some c → c ≤ i → (⟨t + 1, i⟩ : NodeId) ≠ id

/-- the twin, for the per-thread components, of the model's `upd`, which is keyed by `NodeId` -/
def updN {β : Type} (f : Nat → β) (u : Nat) (b : β) : Nat → β := fun t => if t = u then b else f t

theorem updN_self {β : Type} (f : Nat → β) (u : Nat) (b : β) : updN f u b u = b := if_pos rfl

theorem updN_ne {β : Type} {f : Nat → β} {u : Nat} {b : β} {t : Nat} (h : t ≠ u) : updN f u b t = f t := if_neg h

theorem updN_same {β : Type} {f : Nat → β} {u : Nat} {b : β} (h : f u = b) : updN f u b = f := by
  funext t
  by_cases ht : t = u
  · rw [ht, updN_self, h]
  · exact updN_ne ht

theorem updN_updN {β : Type} (f : Nat → β) (u : Nat) (b c : β) : updN (updN f u b) u c = updN f u c := by
  funext t
  by_cases ht : t = u
  · rw [ht, updN_self, updN_self]
  · rw [updN_ne ht, updN_ne ht, updN_ne ht]

theorem updN_cases {β : Type} {f : Nat → β} {u t : Nat} {b v : β} (h : updN f u b t = v) :
    t = u ∧ b = v ∨ t ≠ u ∧ f t = v := by
  by_cases ht : t = u
  · exact .inl ⟨ht, by rw [← h, ht, updN_self]⟩
  · exact .inr ⟨ht, by rw [← h, updN_ne ht]⟩

theorem tableOf_of {ths : List Thread} {u : Nat} {th : Thread} (hu : ths[u]? = some th) :
    tableOf ths u = th.loc.table := by simp only [tableOf, hu]

theorem relOf_of {ths : List Thread} {u : Nat} {th : Thread} (hu : ths[u]? = some th) :
    relOf ths u = th.rel := by simp only [relOf, hu]

theorem actrOf_of {ths : List Thread} {u : Nat} {th : Thread} (hu : ths[u]? = some th) :
    actrOf ths u = some th.loc.actr := by simp only [actrOf, hu]

theorem mem_tableOf {ths : List Thread} {t k : Nat} {id : NodeId} :
    (k, id) ∈ tableOf ths t ↔ ∃ th, ths[t]? = some th ∧ (k, id) ∈ th.loc.table := by
  unfold tableOf
  split
  · next th ht => exact ⟨fun h => ⟨th, ht, h⟩, fun ⟨th', ht', h⟩ => by cases ht.symm.trans ht'; exact h⟩
  · next hn => exact ⟨nofun, fun ⟨th', ht', _⟩ => by rw [hn] at ht'; cases ht'⟩

/-- every case of `step` replaces thread `u` and writes to the heap -/
theorem abs_set {s : State} {u : Nat} {th : Thread} (hu : s.threads[u]? = some th)
    (F : NodeId → Option Fields) (A : NodeId → Meta) (x : Thread) :
    abs { s with fields := F, arcs := A, threads := s.threads.set u x } =
      { fields := F, arcs := A, roots := s.roots, tbl := updN (tableOf s.threads) u x.loc.table,
        rel := updN (relOf s.threads) u x.rel, actr := updN (actrOf s.threads) u (some x.loc.actr) } := by
  have hget : ∀ t, (s.threads.set u x)[t]? = if t = u then some x else s.threads[t]? := fun t => by
    rw [List.getElem?_set, if_pos (List.getElem?_eq_some_iff.1 hu).1]; simp only [eq_comm]
  simp only [abs, AState.mk.injEq, true_and]
  refine ⟨funext ?_, funext ?_, funext ?_⟩ <;> intro t <;> by_cases h : t = u <;>
    simp [tableOf, relOf, actrOf, updN, hget, h]

inductive Reach (fields : NodeId → Option Fields) : NodeId → NodeId → Prop where
  | refl (x : NodeId) : Reach fields x x
  | step {x p j : NodeId} {f : Fields} : Reach fields x p → fields p = some f → f.next = some j → Reach fields x j

theorem Reach.head {fields : NodeId → Option Fields} {x y z : NodeId} {f : Fields}
    (hx : fields x = some f) (hn : f.next = some y) (h : Reach fields y z) : Reach fields x z := by
  induction h with
  | refl => exact .step (.refl x) hx hn
  | step _ hp hj ih => exact .step ih hp hj

theorem Inv.of_owned {a : AState} (h : Inv a) {id : NodeId} (hne : (a.arcs id).owners ≠ []) :
    (a.arcs id).freed = false ∧ (∀ t, a.rel t ≠ .free id) ∧ Used a id := by
  refine ⟨?_, fun t ht => hne (h.freeing t id ht).1, fun t c i hc hci e => hne (e ▸ (h.fresh t c i hc hci).noowners)⟩
  cases hf : (a.arcs id).freed with
  | false => rfl
  | true => exact absurd (h.freedEmpty id hf) hne

theorem Inv.alive {a : AState} (h : Inv a) {id : NodeId} {tok : Owner} (r : Refs a id tok) :
    (a.arcs id).owners ≠ [] ∧ (a.arcs id).freed = false :=
  have hne := List.ne_nil_of_mem (h.counted id tok r)
  ⟨hne, (h.of_owned hne).1⟩

theorem follow_reach {V : View} {fields : NodeId → Option Fields} (hV : ∀ x f, V x = some f → fields x = some f) :
    ∀ (d : Nat) (x j : NodeId), follow V x d = some j → Reach fields x j ∧ (fields j).isSome
  | 0, x, j, h => by
    simp only [follow] at h
    split at h
    · next hs =>
      cases h
      cases hv : V x with
      | none => simp [hv] at hs
      | some f => exact ⟨.refl _, by simp [hV x f hv]⟩
    · cases h
  | d + 1, x, j, h => by
    simp only [follow] at h
    split at h
    · next f hv =>
      split at h
      · next y hn =>
        obtain ⟨h1, h2⟩ := follow_reach hV d y j h
        exact ⟨Reach.head (hV x f hv) hn h1, h2⟩
      · cases h
    · cases h

theorem view_le (t : Nat) (fields : NodeId → Option Fields) (x : NodeId) (f : Fields)
    (h : view t fields x = some f) : fields x = some f := by
  simp only [view] at h
  split at h
  · exact h
  · cases h

/-- what `resolve` can lead to -/
def RefReach (a : AState) (id : NodeId) : Prop := ∃ x tok, Refs a x tok ∧ Reach a.fields x id

/-- every node on the way from a live reference is alive, so its `next` link is a live reference too -/
theorem Inv.of_refReach {a : AState} (h : Inv a) {id : NodeId} (hl : RefReach a id) :
    (a.arcs id).owners ≠ [] ∧ (a.arcs id).freed = false := by
  obtain ⟨x, tok, r, hr⟩ := hl
  induction hr with
  | refl => exact h.alive r
  | step _ hp hj ih => exact h.alive (.link hp hj ih.2)

theorem resolve_reach {s : State} {t : Nat} {th : Thread} (ht : s.threads[t]? = some th) {r : Ref} {j : NodeId}
    (h : resolve (view t s.fields) s.roots th.loc.table r = some j) : RefReach (abs s) j ∧ (s.fields j).isSome := by
  unfold resolve at h
  split at h
  · next x hx =>
    obtain ⟨h1, h2⟩ := follow_reach (view_le t s.fields) _ _ _ h
    split at hx
    · next i _ => exact ⟨⟨x, .root i, .root hx, h1⟩, h2⟩
    · next k _ => exact ⟨⟨x, .handle t k, .handle (mem_tableOf.2 ⟨_, ht, lookup_mem hx⟩), h1⟩, h2⟩
  · cases h

theorem resolve_alive {s : State} (h : Inv (abs s)) {t : Nat} {th : Thread} (ht : s.threads[t]? = some th) {r : Ref}
    {j : NodeId} (hres : resolve (view t s.fields) s.roots th.loc.table r = some j) :
    (s.arcs j).owners ≠ [] ∧ (s.arcs j).freed = false ∧ (s.fields j).isSome :=
  let ⟨hl, hs⟩ := resolve_reach ht hres
  ⟨(h.of_refReach hl).1, (h.of_refReach hl).2, hs⟩

theorem relNode_eq_some {r : Rel} {p : NodeId} (h : relNode r = some p) :
    r = .free p ∨ ∃ j, r = .dec j (.node p) := by
  cases r with
  | idle => cases h
  | free q => cases h; exact .inl rfl
  | dec j tk =>
    cases tk with
    | node q => cases h; exact .inr ⟨j, rfl⟩
    | root i => cases h
    | handle _ _ => cases h

theorem Inv.unlinking {a : AState} (h : Inv a) {t : Nat} {p : NodeId} (hr : relNode (a.rel t) = some p) :
    (a.arcs p).owners = [] ∨ (a.arcs p).freed = true := by
  rcases relNode_eq_some hr with hrt | ⟨j, hrt⟩
  · exact .inl (h.freeing t p hrt).1
  · exact .inr (h.pendN t j p hrt)

theorem Fresh.congr {a a' : AState} {id : NodeId} (F : Fresh a id) (hf : a'.fields id = a.fields id)
    (ha : a'.arcs id = a.arcs id) (hr : ∀ t, a'.rel t = .free id → a.rel t = .free id) : Fresh a' id :=
  ⟨hf.trans F.nofields, ha ▸ F.noowners, ha ▸ F.notfreed, fun t e => F.nofree t (hr t e)⟩

theorem Refs.mono {a b : AState} {x : NodeId} {tk : Owner} (r : Refs a x tk) (hroots : b.roots = a.roots)
    (htbl : ∀ t k, (k, x) ∈ a.tbl t → (k, x) ∈ b.tbl t)
    (hlink : ∀ p f, a.fields p = some f → (a.arcs p).freed = false → b.fields p = some f ∧ (b.arcs p).freed = false)
    (hrel : ∀ t, a.rel t = .dec x tk → b.rel t = .dec x tk) : Refs b x tk := by
  cases r with
  | root hi => exact .root (hroots ▸ hi)
  | handle hk => exact .handle (htbl _ _ hk)
  | link hp hn hfr => exact .link (hlink _ _ hp hfr).1 hn (hlink _ _ hp hfr).2
  | pending hp => exact .pending (hrel _ hp)

theorem Refs.congr {a : AState} {A A' : NodeId → Meta} {id : NodeId} {tok : Owner}
    (r : Refs { a with arcs := A' } id tok) (hfreed : ∀ x, (A' x).freed = (A x).freed) :
    Refs { a with arcs := A } id tok :=
  r.mono rfl (fun _ _ h => h) (fun p _ hp hfr => ⟨hp, (hfreed p).symm.trans hfr⟩) fun _ h => h

/-- what `Inv` asks of thread `u` in release state `r`: the reference it is giving up is counted and is none of those
that still exist; the node it is freeing has no owner; nobody else is unlinking that node -/
def ThreadInv (a : AState) (u : Nat) (r : Rel) : Prop :=
  (match r with
    | .idle => True
    | .dec j tok => tok ∈ (a.arcs j).owners ∧
      match tok with
      | .root _ => False
      | .handle v k => v = u ∧ ∀ id, (k, id) ∉ a.tbl u
      | .node p => (a.arcs p).freed = true
    | .free p => (a.arcs p).owners = [] ∧ (a.arcs p).freed = false ∧ Used a p) ∧
  ∀ p, relNode r = some p → ∀ t, t ≠ u → relNode (a.rel t) ≠ some p

theorem ThreadInv.idle (a : AState) (u : Nat) : ThreadInv a u .idle := ⟨trivial, nofun⟩

theorem Inv.threadInv {a : AState} (h : Inv a) (u : Nat) : ThreadInv a u (a.rel u) := by
  refine ⟨?_, fun p hp t ht e => h.uniq t u p ht e hp⟩
  cases hr : a.rel u with
  | idle => trivial
  | free p =>
    exact ⟨(h.freeing u p hr).1, (h.freeing u p hr).2, fun t c i hc hci e => (h.fresh t c i hc hci).nofree u (e ▸ hr)⟩
  | dec j tok =>
    refine ⟨h.counted j tok (.pending hr), ?_⟩
    cases tok with
    | root i => exact h.pendR u j i hr
    | handle v k => exact h.pendH u j v k hr
    | node p => exact h.pendN u j p hr

theorem Inv.setRel {a : AState} (h : Inv a) (u : Nat) {r : Rel} (hr : ThreadInv a u r) :
    Inv { a with rel := updN a.rel u r } := by
  refine { h with
    counted := ?counted, pendH := ?pendH, pendN := ?pendN, pendR := ?pendR, freeing := ?freeing, uniq := ?uniq, fresh := ?fresh } <;>
    dsimp only
  case counted =>
    intro x tok r'
    cases r' with
    | root hi => exact h.counted _ _ (.root hi)
    | handle hk => exact h.counted _ _ (.handle hk)
    | link hp hn hfr => exact h.counted _ _ (.link hp hn hfr)
    | pending hp =>
      rcases updN_cases hp with ⟨_, rfl⟩ | ⟨_, hp⟩
      · exact hr.1.1
      · exact h.counted _ _ (.pending hp)
  -- below, `hr.1.2` is what the inner `match tok` of `ThreadInv` reduces to once `r` is known: the handle clause,
  -- the freed flag of the `next` owner, `False` for a root
  case pendH =>
    intro t j v k hp
    rcases updN_cases hp with ⟨rfl, rfl⟩ | ⟨_, hp⟩
    · exact hr.1.2
    · exact h.pendH t j v k hp
  case pendN =>
    intro t j p hp
    rcases updN_cases hp with ⟨_, rfl⟩ | ⟨_, hp⟩
    · exact hr.1.2
    · exact h.pendN t j p hp
  case pendR =>
    intro t j i hp
    rcases updN_cases hp with ⟨_, rfl⟩ | ⟨_, hp⟩
    · exact hr.1.2
    · exact h.pendR t j i hp
  case freeing =>
    intro t p hp
    rcases updN_cases hp with ⟨_, rfl⟩ | ⟨_, hp⟩
    · exact ⟨hr.1.1, hr.1.2.1⟩
    · exact h.freeing t p hp
  case uniq =>
    intro t v p htv h1 h2
    by_cases ht : t = u
    · subst ht
      rw [updN_self] at h1; rw [updN_ne (Ne.symm htv)] at h2
      exact hr.2 p h1 v (Ne.symm htv) h2
    · rw [updN_ne ht] at h1
      by_cases hv : v = u
      · subst hv; rw [updN_self] at h2; exact hr.2 p h2 t ht h1
      · rw [updN_ne hv] at h2; exact h.uniq t v p htv h1 h2
  case fresh =>
    intro t c i hc hci
    refine (h.fresh t c i hc hci).congr rfl rfl fun v hv => ?_
    rcases updN_cases hv with ⟨_, rfl⟩ | ⟨_, hv⟩
    · exact absurd rfl (hr.1.2.2 t c i hc hci)
    · exact hv

/-- `hw` is what `Inv.of_owned` gives for a node with an owner; the node a thread has just allocated has it too -/
theorem Inv.setOwners {a : AState} (h : Inv a) {id : NodeId} {os : List Owner}
    (hw : (a.arcs id).freed = false ∧ (∀ t, a.rel t ≠ .free id) ∧ Used a id)
    (hc : ∀ tok, Refs a id tok → tok ∈ os) :
    Inv { a with arcs := upd a.arcs id { a.arcs id with owners := os } } := by
  obtain ⟨hnf, hnfree, hused⟩ := hw
  have hfreed := upd_owners_freed a.arcs id os
  refine { h with counted := ?counted, freedEmpty := ?freedEmpty, pendN := ?pendN, freeing := ?freeing, fresh := ?fresh } <;>
    dsimp only
  case counted =>
    intro x tok r
    have r0 : Refs a x tok := r.congr (A := a.arcs) hfreed
    by_cases hx : x = id
    · subst hx; rw [upd_self]; exact hc tok r0
    · rw [upd_ne hx]; exact h.counted x tok r0
  case freedEmpty =>
    intro x hx
    by_cases hxi : x = id
    · subst hxi; rw [hfreed, hnf] at hx; cases hx
    · rw [upd_ne hxi] at hx ⊢; exact h.freedEmpty x hx
  case pendN =>
    intro t j p hp; rw [hfreed]; exact h.pendN t j p hp
  case freeing =>
    intro t p hp
    have hpi : p ≠ id := fun e => hnfree t (e ▸ hp)
    rw [upd_ne hpi]; exact h.freeing t p hp
  case fresh =>
    intro t c i hc' hci
    exact (h.fresh t c i hc' hci).congr rfl (upd_ne (hused t c i hc' hci)) fun _ e => e

theorem Inv.setFreed {a : AState} (h : Inv a) {p : NodeId} (ho : (a.arcs p).owners = [])
    (hnf : ∀ t, a.rel t ≠ .free p) (hused : Used a p) :
    Inv { a with arcs := upd a.arcs p { a.arcs p with freed := true } } := by
  refine { h with counted := ?counted, freedEmpty := ?freedEmpty, pendN := ?pendN, freeing := ?freeing, fresh := ?fresh } <;>
    dsimp only
  case counted =>
    intro x tok r
    rw [upd_freed_owners]
    -- the links that are still references leave nodes other than `p`
    refine h.counted x tok (r.mono rfl (fun _ _ hk => hk) (fun q f hq hfr => ⟨hq, ?_⟩) fun _ hp => hp)
    have hqp : q ≠ p := fun e => by simp only [e, upd_self] at hfr; cases hfr
    exact (congrArg Meta.freed (upd_ne hqp)).symm.trans hfr
  case freedEmpty =>
    intro x hx
    rw [upd_freed_owners]
    by_cases hxp : x = p
    · rw [hxp]; exact ho
    · rw [upd_ne hxp] at hx; exact h.freedEmpty x hx
  case pendN =>
    intro t j q hq
    by_cases hqp : q = p
    · rw [hqp, upd_self]
    · rw [upd_ne hqp]; exact h.pendN t j q hq
  case freeing =>
    intro t q hq
    have hqp : q ≠ p := fun e => hnf t (e ▸ hq)
    rw [upd_ne hqp]; exact h.freeing t q hq
  case fresh =>
    intro t c i hc hci
    exact (h.fresh t c i hc hci).congr rfl (upd_ne (hused t c i hc hci)) fun _ e => e

theorem Inv.setTbl {a : AState} (h : Inv a) {u : Nat} {tb : List (Nat × NodeId)} (hidle : a.rel u = .idle)
    (hc : ∀ k id, (k, id) ∈ tb → Owner.handle u k ∈ (a.arcs id).owners) :
    Inv { a with tbl := updN a.tbl u tb } := by
  refine { h with counted := ?counted, pendH := ?pendH, fresh := ?fresh } <;> dsimp only
  case counted =>
    intro x tok r
    cases r with
    | root hi => exact h.counted _ _ (.root hi)
    | handle hk =>
      rename_i t k
      by_cases ht : t = u
      · subst ht; simp only [updN_self] at hk; exact hc k x hk
      · simp only [updN_ne ht] at hk; exact h.counted _ _ (.handle hk)
    | link hp hn hfr => exact h.counted _ _ (.link hp hn hfr)
    | pending hp => exact h.counted _ _ (.pending hp)
  case pendH =>
    intro t j v k hp
    have ht : t ≠ u := fun e => by rw [e, hidle] at hp; cases hp
    rw [updN_ne ht]; exact h.pendH t j v k hp
  case fresh =>
    intro t c i hc' hci
    exact (h.fresh t c i hc' hci).congr rfl rfl fun _ e => e

/-- a node that is unused after an allocation by `u` was unused before it and is not the new node -/
theorem actr_succ_cases {a : AState} {u c : Nat} (hc : a.actr u = some c) {t c' i : Nat}
    (hc' : updN a.actr u (some (c + 1)) t = some c') (hci : c' ≤ i) :
    (∃ c0, a.actr t = some c0 ∧ c0 ≤ i) ∧ (⟨t + 1, i⟩ : NodeId) ≠ ⟨u + 1, c⟩ := by
  rcases updN_cases hc' with ⟨rfl, e⟩ | ⟨ht, hc'⟩
  · cases e
    exact ⟨⟨c, hc, by omega⟩, fun e => by cases e; omega⟩
  · exact ⟨⟨c', hc', hci⟩, fun e => by cases e; exact ht rfl⟩

/-- the first unused node of `u`'s arena gets its fields; its `next` link has to be counted before (`hnext`) -/
theorem Inv.allocFields {a : AState} (h : Inv a) {u c : Nat} {f : Fields} (hc : a.actr u = some c)
    (hnext : ∀ j, f.next = some j → Owner.node ⟨u + 1, c⟩ ∈ (a.arcs j).owners) :
    Inv { a with fields := upd a.fields ⟨u + 1, c⟩ (some f), actr := updN a.actr u (some (c + 1)) } := by
  refine { h with counted := ?counted, fresh := ?fresh } <;> dsimp only
  case counted =>
    intro x tok r
    cases r with
    | root hi => exact h.counted _ _ (.root hi)
    | handle hk => exact h.counted _ _ (.handle hk)
    | link hq hn hfr =>
      rename_i q f'
      by_cases hqn : q = ⟨u + 1, c⟩
      · subst hqn
        simp only [upd_self, Option.some.injEq] at hq
        exact hnext x (hq ▸ hn)
      · simp only [upd_ne hqn] at hq; exact h.counted _ _ (.link hq hn hfr)
    | pending hp => exact h.counted _ _ (.pending hp)
  case fresh =>
    intro t c' i hc' hci
    obtain ⟨⟨c0, h0, h0i⟩, hne⟩ := actr_succ_cases hc hc' hci
    exact (h.fresh t c0 i h0 h0i).congr (upd_ne hne) rfl fun _ e => e

/-- the new node: its fields, then its owners (nothing refers to it yet, and it has left the unused part of the arena) -/
theorem Inv.allocNode {a : AState} (h : Inv a) {u c : Nat} {f : Fields} {m : Meta} (hc : a.actr u = some c)
    (hm : m.freed = false) (hnext : ∀ j, f.next = some j → Owner.node ⟨u + 1, c⟩ ∈ (a.arcs j).owners) :
    Inv { a with fields := upd a.fields ⟨u + 1, c⟩ (some f), arcs := upd a.arcs ⟨u + 1, c⟩ m,
                 actr := updN a.actr u (some (c + 1)) } := by
  have F := h.fresh u c c hc (Nat.le_refl _)
  have h1 := h.allocFields hc hnext
  have e : ⟨m.owners, (a.arcs ⟨u + 1, c⟩).freed⟩ = m := by rw [F.notfreed, ← hm]
  rw [← e]
  exact h1.setOwners ⟨F.notfreed, F.nofree, fun _ _ _ hc' hci => (actr_succ_cases hc hc' hci).2⟩
    fun tok r => absurd (F.noowners ▸ h1.counted _ tok r) List.not_mem_nil

/-- `k` is the key of the next handle of `u` -/
inductive AStep (u k : Nat) (a : AState) : AState → Prop where
  | nop : AStep u k a a
  /-- the atomic decrement-and-test of the count of `id`, giving up the reference `tok` -/
  | dec {id : NodeId} {tok : Owner} : a.rel u = .dec id tok → AStep u k a { a with
      arcs := upd a.arcs id { a.arcs id with owners := (a.arcs id).owners.erase tok },
      rel := updN a.rel u
        (if tok ∈ (a.arcs id).owners ∧ (a.arcs id).owners.erase tok = [] then .free id else .idle) }
  /-- the thread that brought the count of `p` to 0 frees it and takes over its `next` reference -/
  | free {p : NodeId} : a.rel u = .free p → AStep u k a { a with
      arcs := upd a.arcs p { a.arcs p with freed := true },
      rel := updN a.rel u (match (a.fields p).bind (·.next) with
        | some j => .dec j (.node p)
        | none => .idle) }
  | clone {id : NodeId} : a.rel u = .idle → RefReach a id → AStep u k a { a with
      arcs := addOwner a.arcs id (.handle u k), tbl := updN a.tbl u ((k, id) :: a.tbl u) }
  /-- the instruction `append` -/
  | alloc {c : Nat} {f : Fields} : a.rel u = .idle → a.actr u = some c → (∀ j, f.next = some j → RefReach a j) →
      AStep u k a { a with
        fields := upd a.fields ⟨u + 1, c⟩ (some f),
        arcs := match f.next with
          | some j =>
            addOwner (upd a.arcs ⟨u + 1, c⟩ { owners := [.handle u k], freed := false }) j (.node ⟨u + 1, c⟩)
          | none => upd a.arcs ⟨u + 1, c⟩ { owners := [.handle u k], freed := false },
        tbl := updN a.tbl u ((k, ⟨u + 1, c⟩) :: a.tbl u),
        actr := updN a.actr u (some (c + 1)) }
  /-- the instruction `drop` -/
  | release {key : Nat} {id : NodeId} : a.rel u = .idle → (key, id) ∈ a.tbl u → AStep u k a { a with
      tbl := updN a.tbl u ((a.tbl u).filter (fun p => p.1 != key)),
      rel := updN a.rel u (.dec id (.handle u key)) }

theorem abs_step {s : State} {u : Nat} {th : Thread} (hu : s.threads[u]? = some th) :
    AStep u th.loc.ctr (abs s) (abs (step s u)) := by
  have hr := relOf_of hu
  have hlive : ∀ {r j}, resolve (view u s.fields) s.roots th.loc.table r = some j → RefReach (abs s) j :=
    fun hres => (resolve_reach hu hres).1
  fun_cases step s u with
  | case1 hu' => rw [hu] at hu'; cases hu'
  | case2 th' hu' id tok hrel =>
    cases hu.symm.trans hu'
    rw [abs_set hu, updN_same (tableOf_of hu), updN_same (actrOf_of hu)]
    exact .dec (hr.trans hrel)
  | case3 th' hu' p hrel =>
    cases hu.symm.trans hu'
    rw [abs_set hu, updN_same (tableOf_of hu), updN_same (actrOf_of hu)]
    exact .free (hr.trans hrel)
  | case4 th' hu' hrel L hI =>
    cases hu.symm.trans hu'
    obtain ⟨hT, _, hC⟩ := instr_spec hI
    rw [abs_set hu, hT, hC, updN_same (tableOf_of hu), updN_same hr, updN_same (actrOf_of hu)]
    exact .nop
  | case5 th' hu' hrel L id tok hI =>
    cases hu.symm.trans hu'
    obtain ⟨⟨r, hres⟩, rfl, hT, _, hC⟩ := instr_spec hI
    rw [abs_set hu, hT, hC, ← tableOf_of hu, updN_same hr, updN_same (actrOf_of hu)]
    exact .clone (hr.trans hrel) (hlive hres)
  | case6 th' hu' hrel L newid f tok hI =>
    cases hu.symm.trans hu'
    obtain ⟨rfl, rfl, hT, _, hC, hnx⟩ := instr_spec hI
    rw [abs_set hu, hT, hC, ← tableOf_of hu, updN_same hr]
    exact .alloc (hr.trans hrel) (actrOf_of hu) fun j hj =>
      let ⟨r, hres⟩ := hnx j hj
      hlive hres
  | case7 th' hu' hrel L id tok hI =>
    cases hu.symm.trans hu'
    obtain ⟨key, rfl, hmem, hT, _, hC⟩ := instr_spec hI
    rw [abs_set hu, hT, hC, ← tableOf_of hu, updN_same (actrOf_of hu)]
    exact .release (hr.trans hrel) (mem_tableOf.2 ⟨_, hu, hmem⟩)

theorem Inv.pending_unique {a : AState} (h : Inv a) {u : Nat} {id : NodeId} {tok : Owner}
    (hu : a.rel u = .dec id tok) {x : NodeId} : ¬ Refs { a with rel := updN a.rel u .idle } x tok := by
  intro r
  cases r with
  | root hi => exact h.pendR u id _ hu
  | handle hk =>
    obtain ⟨rfl, hno⟩ := h.pendH u id _ _ hu
    exact hno x hk
  | link hq hn hfr => exact Bool.noConfusion (hfr.symm.trans (h.pendN u id _ hu))
  | pending hp =>
    rename_i t
    rcases updN_cases hp with ⟨_, e⟩ | ⟨ht, hp⟩
    · cases e
    · -- two threads giving up references with the same token
      cases tok with
      | root i => exact h.pendR u id i hu
      | handle v k => exact ht ((h.pendH t x v k hp).1.symm.trans (h.pendH u id v k hu).1)
      | node p => exact h.uniq t u p ht (by rw [hp]; rfl) (by rw [hu]; rfl)

theorem Inv.addHandle {a : AState} (h : Inv a) {u k : Nat} {id : NodeId} (hidle : a.rel u = .idle)
    (hk : Owner.handle u k ∈ (a.arcs id).owners) : Inv { a with tbl := updN a.tbl u ((k, id) :: a.tbl u) } := by
  refine h.setTbl hidle fun k' id' hm => ?_
  rcases List.mem_cons.1 hm with e | hm
  · cases e; exact hk
  · exact h.counted id' _ (.handle hm)

theorem Inv.addOwner {a : AState} (h : Inv a) {id : NodeId} (tok : Owner) (hne : (a.arcs id).owners ≠ []) :
    Inv { a with arcs := addOwner a.arcs id tok } :=
  h.setOwners (h.of_owned hne) fun tok' r => List.mem_cons_of_mem _ (h.counted id tok' r)

theorem mem_addOwner_self (arcs : NodeId → Meta) (id : NodeId) (tok : Owner) :
    tok ∈ (addOwner arcs id tok id).owners := by
  rw [addOwner_self]; exact List.mem_cons_self

theorem AStep.inv {a a' : AState} {u k : Nat} (st : AStep u k a a') (h : Inv a) : Inv a' := by
  cases st with
  | nop => exact h
  | @dec id tok hu =>
    -- `u` idle; erase `tok`; `u` idle or freeing `id`
    have hne : (a.arcs id).owners ≠ [] := List.ne_nil_of_mem (h.counted id tok (.pending hu))
    obtain ⟨hnf, _, hused⟩ := h.of_owned hne
    have h1 := h.setRel u (ThreadInv.idle a u)
    -- the final release state is written over the idle one, so that `setRel ∘ setOwners ∘ setRel` applies
    rw [← updN_updN a.rel u .idle]
    refine (h1.setOwners (h1.of_owned hne) fun tok' r => ?_).setRel u ?_
    · exact (List.mem_erase_of_ne fun e => h.pending_unique hu (e ▸ r)).2 (h1.counted id tok' r)
    split
    · next hc =>
      refine ⟨⟨(congrArg Meta.owners (upd_self ..)).trans hc.2, (congrArg Meta.freed (upd_self ..)).trans hnf,
        hused⟩, ?_⟩
      -- nobody else is unlinking `id`: it had an owner and was not freed
      intro p hp t ht hrn
      cases hp
      simp only [updN_ne ht] at hrn
      rcases h.unlinking hrn with e | e
      · exact hne e
      · exact Bool.noConfusion (hnf.symm.trans e)
    · exact ThreadInv.idle _ u
  | @free p hu =>
    -- `u` idle; `p` freed; `u` releasing the `next` reference of `p`, if any
    have ti := h.threadInv u
    rw [hu] at ti
    obtain ⟨⟨ho, hnf, hused⟩, hother⟩ := ti
    have hother := hother p rfl
    -- as for `dec`: `setRel ∘ setFreed ∘ setRel`
    rw [← updN_updN a.rel u .idle]
    refine ((h.setRel u (ThreadInv.idle a u)).setFreed ho (fun t e => ?_) hused).setRel u ?_
    · rcases updN_cases e with ⟨_, e⟩ | ⟨ht, e⟩
      · cases e
      · exact hother t ht (by rw [e]; rfl)
    split
    · next j hj =>
      obtain ⟨f, hf, hn⟩ := Option.bind_eq_some_iff.1 hj
      refine ⟨⟨?_, congrArg Meta.freed (upd_self ..)⟩, ?_⟩
      · -- the `next` link of `p` was a live reference until now
        show Owner.node p ∈ (upd a.arcs p _ j).owners
        rw [upd_freed_owners]; exact h.counted j _ (.link hf hn hnf)
      · intro q hq t ht hrn
        cases hq
        simp only [updN_ne ht] at hrn
        exact hother t ht hrn
    · exact ThreadInv.idle _ u
  | @clone id hidle hl =>
    exact (h.addOwner (.handle u k) (h.of_refReach hl).1).addHandle hidle (mem_addOwner_self ..)
  | @alloc c f hidle hc hl =>
    -- one more owner for the `next` of the new node; the new node; the new handle
    have finish := fun {A : NodeId → Meta} (hA : Inv { a with arcs := A })
        (hnext : ∀ j, f.next = some j → Owner.node ⟨u + 1, c⟩ ∈ (A j).owners) =>
      (hA.allocNode (m := { owners := [.handle u k], freed := false }) hc rfl hnext).addHandle (k := k) hidle
        (by show _ ∈ Meta.owners (upd _ _ _ _); rw [upd_self]; exact List.mem_cons_self)
    cases hn : f.next with
    | none => exact finish h fun j hj => by rw [hn] at hj; cases hj
    | some j =>
      have hj := (h.of_refReach (hl j hn)).1
      have h2 := finish (h.addOwner (.node ⟨u + 1, c⟩) hj) fun j' hj' => by
        cases hn.symm.trans hj'; exact mem_addOwner_self ..
      -- `j` has an owner and the new node has none, so they differ and the two writes commute
      have hjn : j ≠ ⟨u + 1, c⟩ := fun e => hj (e ▸ (h.fresh u c c hc (Nat.le_refl _)).noowners)
      simp only [addOwner_upd hjn]
      exact h2
  | @release key id hidle hmem =>
    -- the handle leaves the table; `u` releasing it
    have h1 := h.setTbl (tb := (a.tbl u).filter (fun p => p.1 != key)) hidle fun k id' hm =>
      h.counted id' _ (.handle (List.mem_filter.1 hm).1)
    refine h1.setRel u ⟨⟨h.counted id _ (.handle hmem), rfl, fun id' hm => ?_⟩, nofun⟩
    simp [updN_self] at hm

theorem inv_step (s : State) (u : Nat) (h : Inv (abs s)) : Inv (abs (step s u)) := by
  cases hu : s.threads[u]? with
  | none => rw [step_oob hu]; exact h
  | some th => exact (abs_step hu).inv h

theorem inv_run (sched : List Nat) : ∀ s : State, Inv (abs s) → Inv (abs (run s sched)) :=
  run_induction (P := fun s => Inv (abs s)) inv_step sched

/-- **what is assumed of the state in which the threads start**: nobody is in the middle of a drop; the
counts cover the root handles, the handles the threads were given and the `next` links of the nodes that
have not been freed; a freed node has count 0; the unused part of every thread's arena is unused. -/
structure WellFormed (s : State) : Prop where
  idle : ∀ (t : Nat) (th : Thread), s.threads[t]? = some th → th.rel = .idle
  roots : ∀ (i : Nat) (id : NodeId), s.roots[i]? = some id → Owner.root i ∈ (s.arcs id).owners
  handles : ∀ (t : Nat) (th : Thread) (k : Nat) (id : NodeId), s.threads[t]? = some th → (k, id) ∈ th.loc.table → Owner.handle t k ∈ (s.arcs id).owners
  links : ∀ p f id, s.fields p = some f → f.next = some id → (s.arcs p).freed = false →
    Owner.node p ∈ (s.arcs id).owners
  freedEmpty : ∀ id, (s.arcs id).freed = true → (s.arcs id).owners = []
  fresh : ∀ (t : Nat) (th : Thread) (i : Nat), s.threads[t]? = some th → th.loc.actr ≤ i →
    s.fields ⟨t + 1, i⟩ = none ∧ (s.arcs ⟨t + 1, i⟩).owners = [] ∧ (s.arcs ⟨t + 1, i⟩).freed = false

theorem relOf_idle {s : State} (hidle : ∀ (t : Nat) (th : Thread), s.threads[t]? = some th → th.rel = .idle) (t : Nat) :
    relOf s.threads t = .idle := by
  simp only [relOf]
  split
  · next th ht => exact hidle t th ht
  · rfl

theorem WellFormed.inv {s : State} (w : WellFormed s) : Inv (abs s) := by
  have hrel : ∀ {t r}, (abs s).rel t = r → r = .idle := fun e => e.symm.trans (relOf_idle w.idle _)
  -- all threads are idle, so the clauses about a thread that is releasing hold for want of one
  refine { freedEmpty := w.freedEmpty, counted := ?counted, fresh := ?fresh
           pendH := fun _ _ _ _ hr => nomatch hrel hr
           pendN := fun _ _ _ hr => nomatch hrel hr
           pendR := fun _ _ _ hr => nomatch hrel hr
           freeing := fun _ _ hr => nomatch hrel hr
           uniq := fun t _ _ _ h1 => by rw [hrel (t := t) rfl] at h1; cases h1 }
  case counted =>
    intro id tok r
    cases r with
    | root hi => exact w.roots _ _ hi
    | handle hk =>
      obtain ⟨th, ht, hk⟩ := mem_tableOf.1 hk
      exact w.handles _ th _ id ht hk
    | link hp hn hfr => exact w.links _ _ _ hp hn hfr
    | pending hp => cases hrel hp
  case fresh =>
    intro t c i hc hci
    change actrOf s.threads t = some c at hc
    simp only [actrOf] at hc
    split at hc
    · next th ht =>
      cases hc
      obtain ⟨h1, h2, h3⟩ := w.fresh t th i ht hci
      exact ⟨h1, h2, h3, fun v hv => by cases hrel hv⟩
    · cases hc

/-- the keeping reference of a root-reachable node is a root handle or the `next` link of a node that, being
root-reachable itself, has an owner and so is not freed -/
theorem WellFormed.rootsSafe {s : State} (w : WellFormed s) : RootsSafe s s := by
  have hnf : ∀ {id tok}, tok ∈ (s.arcs id).owners → (s.arcs id).freed = false := fun hm =>
    (w.inv.of_owned (List.ne_nil_of_mem hm)).1
  refine ⟨fun id tok hr => ?_, fun t th ht => w.idle t th ht ▸ trivial⟩
  induction hr with
  | head i id hi _ => exact ⟨w.roots i id hi, hnf (w.roots i id hi)⟩
  | next p tokp f j _ hf hn _ ih => exact ⟨w.links p f j hf hn ih.2, hnf (w.links p f j hf hn ih.2)⟩

/-- the target of a live handle; one in a thread's table was shared or made by the thread itself with `clone` /
`append`, and has not been dropped -/
def Held (s : State) (h : NodeId) : Prop :=
  (∃ i : Nat, s.roots[i]? = some h) ∨ (∃ (t : Nat) (th : Thread) (k : Nat), s.threads[t]? = some th ∧ (k, h) ∈ th.loc.table)

theorem Held.refs {s : State} {h : NodeId} (hh : Held s h) : ∃ tok, Refs (abs s) h tok := by
  rcases hh with ⟨i, hi⟩ | ⟨t, th, k, ht, hk⟩
  · exact ⟨_, .root hi⟩
  · exact ⟨.handle t k, .handle (mem_tableOf.2 ⟨_, ht, hk⟩)⟩

/-- lets an example discharge `Held` for a thread's handle by `decide` on `tableOf` -/
theorem held_of_tableOf {s : State} {t k : Nat} {h : NodeId} (hk : (k, h) ∈ tableOf s.threads t) : Held s h := by
  obtain ⟨th, ht, hk⟩ := mem_tableOf.1 hk
  exact .inr ⟨t, th, k, ht, hk⟩

theorem Inv.held_alive {s : State} (h : Inv (abs s)) {x id : NodeId} (hx : Held s x) (hr : Reach s.fields x id) :
    (s.arcs id).freed = false ∧ 0 < (s.arcs id).count :=
  let ⟨tok, r⟩ := hx.refs
  let ⟨hne, hnf⟩ := h.of_refReach ⟨x, tok, r, hr⟩
  ⟨hnf, List.length_pos_iff.2 hne⟩

end Arimaa.Conc
