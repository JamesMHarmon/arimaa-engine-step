-- GENERATED by /verif/tools/gen.py -- do not edit.  Bridge from the current text of `GameState::valid_placement` to the baseline text.
import Arimaa.Gen.Rs
import Arimaa.Gen.RsBase
import Arimaa.Gen.BridgeLadder
import Arimaa.Gen.Bridge.GameState_curr_player_piece_mask
import Arimaa.Gen.Bridge.GameState_piece_board

namespace Arimaa.Gen.Bridge
open Arimaa Arimaa.Gen Arimaa.Rt

set_option maxHeartbeats 1000000 in
theorem bridge_GameState_valid_placement : @Rs.GameState_valid_placement = @RsBase.GameState_valid_placement := by
  funext a0
  rs_ladder [Rs.GameState_valid_placement, RsBase.GameState_valid_placement, bridge_GameState_curr_player_piece_mask, bridge_GameState_piece_board] [RsBase.GameState_curr_player_piece_mask, RsBase.GameState_piece_board] (skip) [Rs.GameState_valid_placement, RsBase.GameState_valid_placement, Rs.GameState_curr_player_piece_mask, Rs.GameState_piece_board, Rs.PieceBoard_piece_board, RsBase.GameState_curr_player_piece_mask, RsBase.GameState_piece_board, RsBase.PieceBoard_piece_board]

end Arimaa.Gen.Bridge
