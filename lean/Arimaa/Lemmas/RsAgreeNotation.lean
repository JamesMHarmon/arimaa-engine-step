import Arimaa.Lemmas.RsAgreeSquare
import Arimaa.Lemmas.Notation

/-!
The `FromStr` parsers of piece.rs, direction.rs, square.rs and action.rs, translated (`Gen/RsSq.lean`; a `&str` is
the list of its chars, `Result<T, _>` is `Option T`, `str::parse::<usize>` is `Rt.parseUsize`) and PROVED equal to
the hand-written parsers of `Impl/Text.lean` that the C16 theorems are about — for every string.
-/
namespace Arimaa.RsAgree
open Arimaa.Gen Arimaa.Rt

def ofOutcome {α : Type} : Outcome α → Res (Option α)
  | .ok a => .ok (some a)
  | .err => .ok none
  | .panic => .panic

theorem ofOutcome_eq_ok_some {α : Type} {o : Outcome α} {a : α} : ofOutcome o = .ok (some a) ↔ o = .ok a := by
  cases o <;> simp [ofOutcome]

theorem ofOutcome_ne_panic {α : Type} {o : Outcome α} : ofOutcome o ≠ .panic ↔ o ≠ .panic := by
  cases o <;> simp [ofOutcome]

/-- Split on the MODEL's table, never on the generated `match` (every `def` has a matcher constant of its own, so a lemma
about one generated `match` does not rewrite another): for a listed letter both sides compute; for any other character the
disequalities decide the generated `match` as well.  `direction_from_str_one`, `convert_char_to_piece_eq` likewise. -/
theorem piece_from_str_one (c : Char) : RsSq.Piece_from_str [c] = pieceOfChar c := by
  unfold pieceOfChar
  split <;> first | rfl | (unfold RsSq.Piece_from_str; simp only [List.head?_cons, *]; rfl)

theorem direction_from_str_one (c : Char) : RsSq.Direction_from_str [c] = dirOfChar c := by
  unfold dirOfChar
  split <;> first | rfl | (unfold RsSq.Direction_from_str; simp only [List.head?_cons, *]; rfl)

theorem piece_from_str (t : List Char) :
    RsSq.Piece_from_str t = (match parsePiece t with | .ok p => some p | _ => none) := by
  match t with
  | [] => rfl
  | [c] => rw [piece_from_str_one, parsePiece]; cases pieceOfChar c <;> rfl
  | _ :: _ :: _ => rfl

theorem direction_from_str (t : List Char) :
    RsSq.Direction_from_str t = (match parseDir t with | .ok d => some d | _ => none) := by
  match t with
  | [] => rfl
  | [c] => rw [direction_from_str_one, parseDir]; cases dirOfChar c <;> rfl
  | _ :: _ :: _ => rfl

theorem isAsciiDigit_eq : Rt.isAsciiDigit = fun c => decide ('0' ≤ c ∧ c ≤ '9') := by
  funext c
  simp only [Rt.isAsciiDigit, ble_eq_decide, ← Bool.decide_and]
  rfl

/-- the translated `parse::<usize>` and the model's differ only on the empty string and on a leading `+`, which
neither the header regex nor `Square::from_str` passes -/
theorem parseUsize_agree (ds : List Char) (hne : ds ≠ []) (hplus : ds.head? ≠ some '+') :
    Rt.parseUsize ds = Arimaa.parseUsize ds := by
  obtain ⟨c, rest, rfl⟩ := List.exists_cons_of_ne_nil hne
  have hstrip : Rt.stripPlus (c :: rest) = c :: rest := by
    unfold Rt.stripPlus
    split
    · rename_i h; cases h; exact absurd rfl hplus
    · rfl
  unfold Rt.parseUsize Arimaa.parseUsize
  simp only [hstrip, isAsciiDigit_eq, List.isEmpty_cons, Bool.false_eq_true, if_false]
  rfl

theorem parseUsize_agree_digits (ds : List Char) (hne : ds ≠ []) (hd : ∀ c ∈ ds, isPerlDigit c = true) :
    Rt.parseUsize ds = Arimaa.parseUsize ds :=
  parseUsize_agree ds hne fun h => by
    obtain ⟨c, rest, rfl⟩ := List.exists_cons_of_ne_nil hne
    cases h
    exact absurd (hd '+' (List.mem_cons_self ..)) (by decide)

theorem parseUsize_agree_char (c : Char) : Rt.parseUsize [c] = parseDigitChar c := by
  by_cases hp : c = '+'
  · subst hp; decide
  · rw [parseUsize_agree [c] (List.cons_ne_nil _ _) (fun h => hp (Option.some.inj h)), parseUsize_singleton]

theorem square_from_str (t : List Char) : RsSq.Square_from_str t = ofOutcome (parseSquare t) := by
  unfold RsSq.Square_from_str parseSquare
  match t with
  | [] => rfl
  | [_] => rfl
  | _ :: _ :: _ :: _ => rfl
  | [column, row] =>
    simp only [List.length_cons, List.length_nil, show ((0 + 1 + 1 : Nat) == 2) = true from rfl, cond_true,
      show Rt.index [column, row] 0 = .ok column from rfl, show Rt.index [column, row] 1 = .ok row from rfl,
      Res.bind_ok, parseUsize_agree_char, show Rt.addU8 ASCII_LETTER_A (BOARD_WIDTH % 256) = .ok 105 by decide,
      show Rt.subU8 105 1 = .ok 104 by decide]
    cases parseDigitChar row with
    | none => rfl
    | some r =>
      simp only [show (Char.ofNat ASCII_LETTER_A).toNat = 97 by decide, show (Char.ofNat 104).toNat = 104 by decide,
        show Char.ofNat (ASCII_LETTER_A + BOARD_WIDTH - 1) = Char.ofNat 104 by decide, char_le_iff, BOARD_HEIGHT,
        ble_eq_decide, ← Bool.decide_and, Bool.cond_decide, and_assoc]
      split
      · rename_i hc
        rw [square_new_ok column r (by omega) (by omega) (by omega)]
        rfl
      · rfl

theorem action_from_str (t : List Char) : RsSq.Action_from_str t = ofOutcome (parseAction t) := by
  unfold RsSq.Action_from_str parseAction
  match t with
  | [] => rfl
  | [c] =>
    simp only [List.length_cons, List.length_nil, List.head?_cons, show ((0 + 1 : Nat) == 1) = true from rfl, cond_true,
      piece_from_str]
    by_cases hp : c = 'p'
    · subst hp; rfl
    · have : (c == 'p') = false := by simpa using hp
      simp only [this, cond_false, if_neg hp]
      cases parsePiece [c] <;> rfl
  | [_, _] => rfl
  | _ :: _ :: _ :: _ :: _ => rfl
  | [a, b, c] =>
    simp only [List.length_cons, List.length_nil]
    have hs : Rt.sliceTo [a, b, c] 2 = .ok [a, b] := rfl
    have hi : Rt.index [a, b, c] 2 = .ok c := rfl
    simp only [show ((0 + 1 + 1 + 1 : Nat) == 1) = false from rfl, show ((0 + 1 + 1 + 1 : Nat) == 3) = true from rfl,
      cond_false, cond_true, hs, hi, Res.bind_ok, square_from_str, direction_from_str]
    cases hsq : parseSquare [a, b] with
    | err => rfl
    | panic => exact absurd hsq (parseSquare_no_panic _)
    | ok sq =>
      simp only [ofOutcome, Res.bind_ok]
      cases parseDir [c] <;> rfl

theorem piece_fmt (p : Piece) (f : List Char) : RsSq.Piece_fmt p f = f ++ showPiece p := by
  cases p <;> rfl

theorem direction_fmt (d : Dir) (f : List Char) : RsSq.Direction_fmt d f = f ++ showDir d := by
  cases d <;> rfl

theorem square_fmt (sq : Nat) (f : List Char) :
    RsSq.Square_fmt sq f = Res.guard (showSquarePanics sq) (f ++ showSquare sq) := by
  unfold RsSq.Square_fmt showSquarePanics showSquare natDigits
  rw [square_column_char, square_row]
  cases sqRowPanics sq
  · simp [Res.guard, Res.bind]
  · rfl

theorem action_fmt (a : Action) (f : List Char) :
    RsSq.Action_fmt a f = Res.guard (showActionPanics a) (f ++ showAction a) := by
  unfold RsSq.Action_fmt showActionPanics showAction
  cases a with
  | pass => rfl
  | place p => simp [piece_fmt, Res.guard, Res.bind]
  | move sq d =>
    simp only [square_fmt, direction_fmt, List.nil_append]
    cases showSquarePanics sq
    · simp [Res.guard, Res.bind]
    · rfl

end Arimaa.RsAgree
