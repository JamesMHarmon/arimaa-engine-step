-- GENERATED by /verif/tools/gen.py -- do not edit.  Bridge from the current text of `PieceBoard::move_piece` to the baseline text.
import Arimaa.Gen.Rs
import Arimaa.Gen.RsBase
import Arimaa.Gen.BridgeLadder
import Arimaa.Gen.Bridge.shift_piece_in_direction

namespace Arimaa.Gen.Bridge
open Arimaa Arimaa.Gen Arimaa.Rt

set_option maxHeartbeats 1000000 in
theorem bridge_PieceBoard_move_piece : @Rs.PieceBoard_move_piece = @RsBase.PieceBoard_move_piece := by
  funext a0 a1 a2
  rs_ladder [Rs.PieceBoard_move_piece, RsBase.PieceBoard_move_piece, bridge_shift_piece_in_direction] [RsBase.shift_piece_in_direction] (cases a2) [Rs.PieceBoard_move_piece, RsBase.PieceBoard_move_piece, Rs.shift_in_direction, Rs.shift_piece_in_direction, RsBase.shift_in_direction, RsBase.shift_piece_in_direction]

end Arimaa.Gen.Bridge
