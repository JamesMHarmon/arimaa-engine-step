import Arimaa.Impl.Basic

/-!
Runtime of the statement-level translator (`tools/rs2lean2.py`).  HAND-WRITTEN, small, and part of the
trusted rendering of Rust's semantics: the result type with an explicit `panic`, checked `usize`
arithmetic, indexing, the two loop shapes the translator emits, and the functions of `square.rs` /
`bit_manip.rs` / `lib.rs` the translated code calls (those three files are modelled by hand in
`Impl/Basic.lean`; the translator treats them as externs).

Nothing here mentions the engine: the users are the generated texts (`Gen/Rs.lean`, `RsSq.lean`, `RsList.lean` and
their baselines) and the agreement proofs about them.  After the definitions come the lemmas about them that mention
nothing else: the monad laws beside `Res`, then `usize` comparisons and the loops (the rest of the calculus of
`Res.guard` is in `Lemmas/RsAgreeRes.lean`).
-/
namespace Arimaa.Rt

/-- the value of a Rust expression evaluated with `overflow-checks = true`: a value, or a panic -/
inductive Res (α : Type) where
  | ok (a : α)
  | panic
  deriving DecidableEq, Repr, Inhabited

namespace Res

@[inline] def bind {α β : Type} (x : Res α) (f : α → Res β) : Res β :=
  match x with
  | .ok a => f a
  | .panic => .panic

@[inline] def map {α β : Type} (f : α → β) (x : Res α) : Res β :=
  match x with
  | .ok a => .ok (f a)
  | .panic => .panic

/-- `panic` exactly when `p`, else the value `v` -/
@[inline] def guard {α : Type} (p : Bool) (v : α) : Res α := if p then .panic else .ok v

def isPanic {α : Type} : Res α → Bool
  | .ok _ => false
  | .panic => true

def getD {α : Type} (x : Res α) (d : α) : α :=
  match x with
  | .ok a => a
  | .panic => d

@[simp] theorem bind_ok {α β : Type} (a : α) (f : α → Res β) : bind (.ok a) f = f a := rfl
@[simp] theorem bind_panic {α β : Type} (f : α → Res β) : bind (.panic : Res α) f = .panic := rfl
@[simp] theorem guard_false {α : Type} (v : α) : guard false v = .ok v := rfl
@[simp] theorem guard_true {α : Type} (v : α) : guard true v = (.panic : Res α) := rfl
@[simp] theorem isPanic_ok {α : Type} (a : α) : (Res.ok a).isPanic = false := rfl
@[simp] theorem isPanic_panic {α : Type} : (Res.panic : Res α).isPanic = true := rfl

theorem bind_guard {α β : Type} (p : Bool) (v : α) (f : α → Res β) :
    bind (guard p v) f = if p then .panic else f v := by
  cases p <;> rfl

theorem bind_assoc {α β γ : Type} (x : Res α) (f : α → Res β) (g : β → Res γ) :
    bind (bind x f) g = bind x (fun a => bind (f a) g) := by
  cases x <;> rfl

@[simp] theorem bind_ok_right {α : Type} (x : Res α) : bind x .ok = x := by
  cases x <;> rfl

theorem guard_eq_ok {α : Type} {p : Bool} {v w : α} : guard p v = .ok w ↔ p = false ∧ v = w := by
  cases p <;> simp [guard]

theorem guard_eq_panic {α : Type} {p : Bool} {v : α} : guard p v = .panic ↔ p = true := by
  cases p <;> simp [guard]

end Res

/-- `usize::MAX` on the 64-bit targets the model is about -/
def usizeMax : Nat := 2 ^ 64 - 1

/-- `a + b` on `usize` with overflow checks -/
def addUsize (a b : Nat) : Res Nat := if a + b > usizeMax then .panic else .ok (a + b)

/-- `a - b` on `usize` with overflow checks -/
def subUsize (a b : Nat) : Res Nat := if a < b then .panic else .ok (a - b)

def mulUsize (a b : Nat) : Res Nat := if a * b > usizeMax then .panic else .ok (a * b)
/-- `a / b`, `a % b`: division by zero panics -/
def divUsize (a b : Nat) : Res Nat := if b = 0 then .panic else .ok (a / b)
def modUsize (a b : Nat) : Res Nat := if b = 0 then .panic else .ok (a % b)

/-- `u8` arithmetic with overflow checks -/
def addU8 (a b : Nat) : Res Nat := if a + b > 255 then .panic else .ok (a + b)
def subU8 (a b : Nat) : Res Nat := if a < b then .panic else .ok (a - b)
def mulU8 (a b : Nat) : Res Nat := if a * b > 255 then .panic else .ok (a * b)

/-- `u32` arithmetic with overflow checks -/
def addU32 (a b : Nat) : Res Nat := if a + b > 4294967295 then .panic else .ok (a + b)
def subU32 (a b : Nat) : Res Nat := if a < b then .panic else .ok (a - b)
def mulU32 (a b : Nat) : Res Nat := if a * b > 4294967295 then .panic else .ok (a * b)

/-- `a << n`, `a >> n` on `u64` with overflow checks: the shift amount must be below 64 -/
def shlU64 (a : BitVec 64) (n : Nat) : Res (BitVec 64) := if n ≥ 64 then .panic else .ok (a <<< n)
def shrU64 (a : BitVec 64) (n : Nat) : Res (BitVec 64) := if n ≥ 64 then .panic else .ok (a >>> n)

/-- `u128::trailing_zeros` of a value that was widened from a `u64` (128 for zero) -/
def tz128 (n : Nat) : Nat := if n = 0 then 128 else ((List.range 128).find? (fun i => n.testBit i)).getD 128

/-- iteration bound of a translated `while` loop: far above anything a 64-bit word can need.  A loop that is
still running after `loopFuel` rounds is rendered as a panic; the agreement theorems show it is never reached. -/
def loopFuel : Nat := 4096

/-- `while cond(st) { st = body(st) }` where the body can panic -/
def whileM {σ : Type} (fuel : Nat) (st : σ) (cond : σ → Bool) (body : σ → Res σ) : Res σ :=
  match fuel with
  | 0 => .panic
  | fuel + 1 => bif cond st then Res.bind (body st) (fun st' => whileM fuel st' cond body) else .ok st

/-- the same with a body that cannot panic (out of fuel: the state reached) -/
def whileP {σ : Type} (fuel : Nat) (st : σ) (cond : σ → Bool) (body : σ → σ) : σ :=
  match fuel with
  | 0 => st
  | fuel + 1 => bif cond st then whileP fuel (body st) cond body else st

/-- `Iterator::step_by(n)`: the first element and then every `n`-th (`n = 0` panics in Rust; rendered as the list itself) -/
def stepBy {α : Type} (n : Nat) (l : List α) : List α :=
  match l with
  | [] => []
  | a :: rest => a :: stepBy n (rest.drop (n - 1))
termination_by l.length
decreasing_by simp [List.length_drop]; omega

/-- `Iterator::enumerate` -/
def enumerateFrom {α : Type} (n : Nat) : List α → List (Nat × α)
  | [] => []
  | a :: rest => (n, a) :: enumerateFrom (n + 1) rest

def enumerate {α : Type} (l : List α) : List (Nat × α) := enumerateFrom 0 l

/-- `str::split(c)`: the segments between occurrences of `c` (always at least one segment) -/
def splitOn (c : Char) : List Char → List (List Char)
  | [] => [[]]
  | x :: xs =>
    if x = c then [] :: splitOn c xs
    else match splitOn c xs with
      | seg :: rest => (x :: seg) :: rest
      | [] => [[x]]

/-- `for x in l { .. return r .. ; acc = .. }`: `Sum.inl r` as soon as the body returns, else `Sum.inr` of the state -/
def forRetM {α σ ρ : Type} (l : List α) (init : σ) (f : σ → α → Res (ρ ⊕ σ)) : Res (ρ ⊕ σ) :=
  match l with
  | [] => .ok (.inr init)
  | a :: rest => Res.bind (f init a) (fun r => match r with
      | .inl x => .ok (.inl x)
      | .inr s => forRetM rest s f)

def forRetP {α σ ρ : Type} (l : List α) (init : σ) (f : σ → α → ρ ⊕ σ) : ρ ⊕ σ :=
  match l with
  | [] => .inr init
  | a :: rest => match f init a with
      | .inl x => .inl x
      | .inr s => forRetP rest s f

/-- `&v[..n]`: panics when `n` exceeds the length -/
def sliceTo {α : Type} (l : List α) (n : Nat) : Res (List α) := if n > l.length then .panic else .ok (l.take n)

/-- `&v[n..]`: panics when `n` exceeds the length -/
def sliceFrom {α : Type} (l : List α) (n : Nat) : Res (List α) := if n > l.length then .panic else .ok (l.drop n)

def isAsciiDigit (c : Char) : Bool := Nat.ble 48 c.toNat && Nat.ble c.toNat 57

/-- `char::to_digit(radix)` for radix 10 (other radices: digits and letters below the radix) -/
def toDigit (c : Char) (radix : Nat) : Option Nat :=
  let v := if isAsciiDigit c then c.toNat - 48
    else if Nat.ble 97 c.toNat && Nat.ble c.toNat 122 then c.toNat - 97 + 10
    else if Nat.ble 65 c.toNat && Nat.ble c.toNat 90 then c.toNat - 65 + 10
    else radix
  if v < radix then some v else none

/-- `str::parse::<usize>()`: an optional leading `+`, then at least one ASCII digit, value at most `usize::MAX` -/
def stripPlus : List Char → List Char
  | '+' :: rest => rest
  | t => t

def parseUsize (t : List Char) : Option Nat :=
  let ds := stripPlus t
  if ds.isEmpty then none
  else if ds.all isAsciiDigit then
    let v := ds.foldl (fun acc c => acc * 10 + (c.toNat - 48)) 0
    if v ≤ usizeMax then some v else none
  else none

/-- `v[i]` on a slice / array / `Vec` -/
def index {α : Type} (l : List α) (i : Nat) : Res α :=
  match l[i]? with
  | some a => .ok a
  | none => .panic

/-- `Option::unwrap` / `Option::expect` -/
def unwrap {α : Type} : Option α → Res α
  | some a => .ok a
  | none => .panic

/-- `Square::as_bit_board`: `1 << self.0` -/
def asBitBoard (sq : Nat) : Res (BitVec 64) := if sq ≥ 64 then .panic else .ok (sqBit sq)

/-- `first_set_bit`: `1 << trailing_zeros(bits)` -/
def firstSetBit (x : BitVec 64) : Res (BitVec 64) := if x = 0 then .panic else .ok (Arimaa.firstSetBit x)

/-- `for x in l { acc = body(acc, x) }` where the body can panic -/
def forM {α σ : Type} (l : List α) (init : σ) (f : σ → α → Res σ) : Res σ :=
  match l with
  | [] => .ok init
  | a :: rest => Res.bind (f init a) (fun s => forM rest s f)

/-- `for x in l { if .. { return r; } }` without loop-carried state: `some r` for the first element
whose body returns, `none` when the loop runs to its end -/
def findRet {α ρ : Type} (l : List α) (f : α → Res (Option ρ)) : Res (Option ρ) :=
  match l with
  | [] => .ok none
  | a :: rest => Res.bind (f a) (fun r => match r with
      | some x => .ok (some x)
      | none => findRet rest f)

/-- `Vec::retain` / `Iterator::filter` with a predicate that can panic -/
def filterM {α : Type} (l : List α) (f : α → Res Bool) : Res (List α) :=
  match l with
  | [] => .ok []
  | a :: rest => Res.bind (f a) (fun keep => Res.bind (filterM rest f) (fun r =>
      .ok (if keep then a :: r else r)))

/-- `Iterator::map` with a function that can panic -/
def mapM {α β : Type} (l : List α) (f : α → Res β) : Res (List β) :=
  match l with
  | [] => .ok []
  | a :: rest => Res.bind (f a) (fun b => Res.bind (mapM rest f) (fun r => .ok (b :: r)))

/-- `Iterator::any` with a predicate that can panic (stops at the first `true`) -/
def anyM {α : Type} (l : List α) (f : α → Res Bool) : Res Bool :=
  match l with
  | [] => .ok false
  | a :: rest => Res.bind (f a) (fun b => bif b then .ok true else anyM rest f)

/-- `Iterator::all` with a predicate that can panic (stops at the first `false`) -/
def allM {α : Type} (l : List α) (f : α → Res Bool) : Res Bool :=
  match l with
  | [] => .ok true
  | a :: rest => Res.bind (f a) (fun b => bif b then allM rest f else .ok false)

/-! ### `&str`: a list of chars whose `len()` and slice bounds count UTF-8 bytes -/

/-- `str::len`: the number of BYTES of the UTF-8 encoding -/
def strLen (s : List Char) : Nat := (s.map Char.utf8Size).foldl (· + ·) 0

/-- `&s[..n]`: panics unless byte offset `n` is at most the length and falls on a char boundary -/
def strSliceTo : List Char → Nat → Res (List Char)
  | _, 0 => .ok []
  | [], _ + 1 => .panic
  | c :: rest, n + 1 =>
    if c.utf8Size ≤ n + 1 then Res.bind (strSliceTo rest (n + 1 - c.utf8Size)) (fun r => .ok (c :: r)) else .panic

/-- `&s[n..]` -/
def strSliceFrom : List Char → Nat → Res (List Char)
  | s, 0 => .ok s
  | [], _ + 1 => .panic
  | c :: rest, n + 1 => if c.utf8Size ≤ n + 1 then strSliceFrom rest (n + 1 - c.utf8Size) else .panic

/-! ### `usize` comparisons (rendered as `Nat.blt` / `Nat.ble`) -/

theorem blt_decide (a b : Nat) : Nat.blt a b = decide (a < b) := by
  rw [Bool.eq_iff_iff, Nat.blt_eq, decide_eq_true_iff]

theorem ble_decide (a b : Nat) : Nat.ble a b = decide (a ≤ b) := by
  rw [Bool.eq_iff_iff, Nat.ble_eq, decide_eq_true_iff]

/-! ### loop lemmas -/

@[simp] theorem forM_nil {α σ : Type} (init : σ) (f : σ → α → Res σ) : forM [] init f = .ok init := rfl
@[simp] theorem forM_cons {α σ : Type} (a : α) (l : List α) (init : σ) (f : σ → α → Res σ) :
    forM (a :: l) init f = Res.bind (f init a) (fun s => forM l s f) := rfl

/-- a loop whose body is `guard (p a) (g s a)`, the guard not depending on the state -/
theorem forM_guard {α σ : Type} (l : List α) (init : σ) (f : σ → α → Res σ) (p : α → Bool)
    (g : σ → α → σ) (h : ∀ s a, a ∈ l → f s a = Res.guard (p a) (g s a)) :
    forM l init f = Res.guard (l.any p) (l.foldl g init) := by
  induction l generalizing init with
  | nil => rfl
  | cons a l ih =>
    simp only [forM_cons, List.foldl_cons, List.any_cons]
    rw [h init a (List.mem_cons_self ..)]
    cases hp : p a
    · simp only [Res.guard_false, Res.bind_ok, Bool.false_or]
      exact ih _ (fun s b hb => h s b (List.mem_cons_of_mem _ hb))
    · rfl

theorem any_const_false {α : Type} (l : List α) : (l.any fun _ => false) = false :=
  List.any_eq_false.2 fun _ _ => Bool.false_ne_true

/-- a loop whose body never panics is a fold -/
theorem forM_ok {α σ : Type} (l : List α) (init : σ) (f : σ → α → Res σ) (g : σ → α → σ)
    (h : ∀ s a, a ∈ l → f s a = .ok (g s a)) : forM l init f = .ok (l.foldl g init) := by
  rw [forM_guard l init f (fun _ => false) g h, any_const_false]; rfl

@[simp] theorem filterM_nil {α : Type} (f : α → Res Bool) : filterM [] f = .ok [] := rfl

theorem filterM_guard {α : Type} (l : List α) (f : α → Res Bool) (p g : α → Bool)
    (h : ∀ a, a ∈ l → f a = Res.guard (p a) (g a)) :
    filterM l f = Res.guard (l.any p) (l.filter g) := by
  induction l with
  | nil => rfl
  | cons a l ih =>
    simp only [filterM, List.any_cons]
    rw [h a (List.mem_cons_self ..), ih (fun b hb => h b (List.mem_cons_of_mem _ hb))]
    cases hp : p a
    · cases hq : l.any p
      · cases hg : g a <;> simp [Res.guard, Res.bind, List.filter, hg]
      · simp [Res.guard, Res.bind]
    · rfl

theorem filterM_ok {α : Type} (l : List α) (f : α → Res Bool) (g : α → Bool)
    (h : ∀ a, a ∈ l → f a = .ok (g a)) : filterM l f = .ok (l.filter g) := by
  rw [filterM_guard l f (fun _ => false) g h, any_const_false]; rfl

@[simp] theorem findRet_nil {α ρ : Type} (f : α → Res (Option ρ)) : findRet [] f = .ok none := rfl
@[simp] theorem findRet_cons {α ρ : Type} (a : α) (l : List α) (f : α → Res (Option ρ)) :
    findRet (a :: l) f = Res.bind (f a) (fun r => match r with
      | some x => .ok (some x)
      | none => findRet l f) := rfl

/-- `iter().any(p)` and the loop `for a in l { if p(a) { return true } } false` are the same computation; stated
from the `any` form to the loop form so that the bridges can normalise both texts to the loop form -/
theorem anyM_eq_findRet {α : Type} (l : List α) (q : α → Res Bool) :
    anyM l q = Res.bind (findRet l (fun a => Res.bind (q a) (fun t => Res.ok (bif t then some true else none))))
      (fun t => Res.ok (match t with | some x => x | none => false)) := by
  induction l with
  | nil => rfl
  | cons a l ih =>
    simp only [anyM, findRet_cons, Res.bind_assoc]
    cases h : q a with
    | panic => rfl
    | ok b => cases b <;> simp [Res.bind, ih]

/-- `iter().all(p)` and the loop `for a in l { if !p(a) { return false } } true` -/
theorem allM_eq_findRet {α : Type} (l : List α) (q : α → Res Bool) :
    allM l q = Res.bind (findRet l (fun a => Res.bind (q a) (fun t => Res.ok (bif t then none else some false))))
      (fun t => Res.ok (match t with | some x => x | none => true)) := by
  induction l with
  | nil => rfl
  | cons a l ih =>
    simp only [allM, findRet_cons, Res.bind_assoc]
    cases h : q a with
    | panic => rfl
    | ok b => cases b <;> simp [Res.bind, ih]

end Arimaa.Rt
