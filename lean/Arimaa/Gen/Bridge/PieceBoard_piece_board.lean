-- GENERATED by /verif/tools/gen.py -- do not edit.  Bridge from the current text of `PieceBoard::piece_board` to the baseline text.
import Arimaa.Gen.Rs
import Arimaa.Gen.RsBase
import Arimaa.Gen.BridgeLadder

namespace Arimaa.Gen.Bridge
open Arimaa Arimaa.Gen Arimaa.Rt

set_option maxHeartbeats 1000000 in
theorem bridge_PieceBoard_piece_board : @Rs.PieceBoard_piece_board = @RsBase.PieceBoard_piece_board := by
  funext a0
  rs_ladder [Rs.PieceBoard_piece_board, RsBase.PieceBoard_piece_board] [] (skip) [Rs.PieceBoard_piece_board, RsBase.PieceBoard_piece_board]

end Arimaa.Gen.Bridge
