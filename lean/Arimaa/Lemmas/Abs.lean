import Arimaa.Lemmas.Bits
import Arimaa.Lemmas.SpecRules

/-!
The abstraction `absBoard` from the eight bitboards to the square-indexed board of the specification, the
well-formedness invariant `WF`, and the relation `Rep b β` through which both are used: `WF b` is `Rep b (absBoard b)`,
and `Rep b β` gives `WF b` and `absBoard b = β`.
-/
namespace Arimaa
open Gen Spec

def toSpec : Piece → Spec.Piece
  | .rabbit => .rabbit | .cat => .cat | .dog => .dog | .horse => .horse | .camel => .camel
  | .elephant => .elephant

def dirSpec : Dir → Spec.Dir
  | .up => .n | .right => .e | .down => .s | .left => .w

def typeAt (b : Board) (i : Nat) : Option Piece :=
  if bit b.elephants i then some .elephant
  else if bit b.camels i then some .camel
  else if bit b.horses i then some .horse
  else if bit b.dogs i then some .dog
  else if bit b.cats i then some .cat
  else if bit b.rabbits i then some .rabbit
  else none

def absBoard (b : Board) : Spec.Board := fun i =>
  match typeAt b i with
  | some p => some ⟨bit b.p1 i, toSpec p⟩
  | none => none

def str (b : Board) (j : Nat) : Nat :=
  if bit b.elephants j then 5 else if bit b.camels j then 4 else if bit b.horses j then 3
  else if bit b.dogs j then 2 else if bit b.cats j then 1 else 0

/-- one type per square, `all` is the union of the types, `p1 ⊆ all` -/
structure WF (b : Board) : Prop where
  excl : ∀ i, i < 64 →
    (bit b.elephants i).toNat + (bit b.camels i).toNat + (bit b.horses i).toNat +
      (bit b.dogs i).toNat + (bit b.cats i).toNat + (bit b.rabbits i).toNat ≤ 1
  all_eq : ∀ i, i < 64 → bit b.all i =
    (bit b.elephants i || bit b.camels i || bit b.horses i || bit b.dogs i || bit b.cats i ||
      bit b.rabbits i)
  p1_sub : ∀ i, i < 64 → bit b.p1 i = true → bit b.all i = true

theorem toSpec_strength_lt (a b : Piece) :
    Piece.lt a b = decide ((toSpec a).strength < (toSpec b).strength) := by
  cases a <;> cases b <;> rfl

theorem toSpec_injective (a b : Piece) (h : toSpec a = toSpec b) : a = b := by
  cases a <;> cases b <;> first | rfl | cases h

theorem toSpec_beq (t f : Piece) : (toSpec t == toSpec f) = decide (t = f) := by
  cases t <;> cases f <;> rfl

theorem absBoard_ge (b : Board) (k : Nat) (h : 64 ≤ k) : absBoard b k = none := by
  unfold absBoard typeAt; simp [bit_ge _ _ h]

theorem absBoard_apply (b : Board) (j : Nat) :
    absBoard b j = (typeAt b j).map fun t => ⟨bit b.p1 j, toSpec t⟩ := by
  unfold absBoard; cases typeAt b j <;> rfl

inductive Plane where
  | p1 | all | type (f : Piece)

def Board.plane (b : Board) : Plane → BB
  | .p1 => b.p1
  | .all => b.all
  | .type f => b.typeBits f

def Plane.shows (π : Plane) : Option Cell → Bool
  | none => false
  | some c => match π with
    | .p1 => c.gold
    | .all => true
    | .type f => c.piece == toSpec f

theorem Plane.shows_none (π : Plane) : π.shows none = false := rfl

/-- `b` represents `β`: every bit of every plane is what `β` shows on that square.  An operation of the
model refines one of the specification by one statement `Rep b β → Rep (op b) (op' β)`, proved for an
arbitrary plane. -/
def Rep (b : Board) (β : Spec.Board) : Prop := ∀ i π, bit (b.plane π) i = π.shows (β i)

/-- `typeAt` returns the first plane, strongest first, that has the bit; under `WF` at most one has it (a truth
table in the eight bits of the square) -/
theorem WF.rep {b : Board} (hw : WF b) : Rep b (absBoard b) := by
  intro i π
  by_cases hi : i < 64
  · have hx := hw.excl i hi
    have hp := hw.p1_sub i hi
    rw [hw.all_eq i hi] at hp
    have key : let β := absBoard b i
        bit b.p1 i = Plane.p1.shows β ∧ bit b.all i = Plane.all.shows β ∧
        bit b.elephants i = (Plane.type .elephant).shows β ∧ bit b.camels i = (Plane.type .camel).shows β ∧
        bit b.horses i = (Plane.type .horse).shows β ∧ bit b.dogs i = (Plane.type .dog).shows β ∧
        bit b.cats i = (Plane.type .cat).shows β ∧ bit b.rabbits i = (Plane.type .rabbit).shows β := by
      rw [hw.all_eq i hi]
      unfold absBoard typeAt
      revert hx hp
      generalize bit b.elephants i = e; generalize bit b.camels i = m; generalize bit b.horses i = h
      generalize bit b.dogs i = d; generalize bit b.cats i = c; generalize bit b.rabbits i = r
      generalize bit b.p1 i = p
      revert e m h d c r p
      decide +kernel
    obtain ⟨kp, ka, ke, km, kh, kd, kc, kr⟩ := key
    exact match π with
      | .p1 => kp | .all => ka
      | .type .elephant => ke | .type .camel => km | .type .horse => kh | .type .dog => kd
      | .type .cat => kc | .type .rabbit => kr
  · rw [bit_ge _ _ (by omega), absBoard_ge b i (by omega)]; rfl

private theorem Rep.at {b : Board} {β : Spec.Board} (h : Rep b β) (i : Nat) :
    (bit b.elephants i).toNat + (bit b.camels i).toNat + (bit b.horses i).toNat + (bit b.dogs i).toNat +
      (bit b.cats i).toNat + (bit b.rabbits i).toNat ≤ 1 ∧
    bit b.all i = (bit b.elephants i || bit b.camels i || bit b.horses i || bit b.dogs i || bit b.cats i ||
      bit b.rabbits i) ∧
    (bit b.p1 i = true → bit b.all i = true) ∧ absBoard b i = β i := by
  have hp : bit b.p1 i = _ := h i .p1
  have ha : bit b.all i = _ := h i .all
  have he : bit b.elephants i = _ := h i (.type .elephant)
  have hm : bit b.camels i = _ := h i (.type .camel)
  have hh : bit b.horses i = _ := h i (.type .horse)
  have hd : bit b.dogs i = _ := h i (.type .dog)
  have hc : bit b.cats i = _ := h i (.type .cat)
  have hr : bit b.rabbits i = _ := h i (.type .rabbit)
  unfold absBoard typeAt
  rw [hp, ha, he, hm, hh, hd, hc, hr]
  cases β i with
  | none => decide
  | some c => obtain ⟨g, p⟩ := c; cases p <;> cases g <;> decide

theorem Rep.wf {b : Board} {β : Spec.Board} (h : Rep b β) : WF b :=
  ⟨fun i _ => (h.at i).1, fun i _ => (h.at i).2.1, fun i _ => (h.at i).2.2.1⟩

theorem Rep.abs {b : Board} {β : Spec.Board} (h : Rep b β) : absBoard b = β :=
  funext fun i => (h.at i).2.2.2

theorem Board.ext_plane {b c : Board} (h : ∀ π, b.plane π = c.plane π) : b = c := by
  have h1 := h .p1; have h2 := h .all
  have he := h (.type .elephant); have hm := h (.type .camel); have hh := h (.type .horse)
  have hd := h (.type .dog); have hc := h (.type .cat); have hr := h (.type .rabbit)
  cases b; cases c
  simp only [Board.plane, Board.typeBits] at h1 h2 he hm hh hd hc hr
  simp only [h1, h2, he, hm, hh, hd, hc, hr]

theorem Rep.unique {b c : Board} {β : Spec.Board} (hb : Rep b β) (hc : Rep c β) : b = c :=
  Board.ext_plane fun π => bb_ext _ _ fun i _ => (hb i π).trans (hc i π).symm

theorem absBoard_inj_of_wf (b c : Board) (hb : WF b) (hc : WF c) (h : absBoard b = absBoard c) :
    b = c :=
  hb.rep.unique (h ▸ hc.rep)

theorem Rep.all_bit {b : Board} {β : Spec.Board} (h : Rep b β) (i : Nat) : bit b.all i = (β i).isSome :=
  (h i .all).trans (by cases β i <;> rfl)

theorem Rep.type_bit {b : Board} {β : Spec.Board} (h : Rep b β) (i : Nat) (f : Piece) :
    bit (b.typeBits f) i = (β i).any (·.piece == toSpec f) :=
  (h i (.type f)).trans (by cases β i <;> rfl)

theorem Rep.side_bit {b : Board} {β : Spec.Board} (h : Rep b β) (i : Nat) (g : Bool) :
    bit (b.playerPieceMask g) i = ownedBy β g i := by
  have hp : bit b.p1 i = _ := h i .p1
  unfold ownedBy
  cases g
  · show bit (~~~b.p1 &&& b.all) i = _
    rw [BitVec.and_comm, bit_andNot, h.all_bit, hp]
    cases β i with
    | none => rfl
    | some c => obtain ⟨g, _⟩ := c; cases g <;> rfl
  · show bit b.p1 i = _
    rw [hp]
    cases β i with
    | none => rfl
    | some c => obtain ⟨g, _⟩ := c; cases g <;> rfl

theorem Rep.p1_bit {b : Board} {β : Spec.Board} (h : Rep b β) (i : Nat) : bit b.p1 i = ownedBy β true i :=
  h.side_bit i true

theorem Rep.cell_bit {b : Board} {β : Spec.Board} (h : Rep b β) (i : Nat) (g : Bool)
    (t : Piece) : bit (b.typeBits t &&& b.playerPieceMask g) i = (β i == some ⟨g, toSpec t⟩) := by
  rw [bit_and, h.side_bit, h.type_bit]
  unfold ownedBy
  cases β i with
  | none => rfl
  | some c => rw [Option.some_beq_some, cell_beq_def]; rfl

theorem absBoard_eq_none_iff (b : Board) (hw : WF b) (i : Nat) :
    absBoard b i = none ↔ bit b.all i = false := by
  rw [hw.rep.all_bit]
  cases absBoard b i <;> simp

theorem absBoard_isNone (b : Board) (hw : WF b) (i : Nat) :
    (absBoard b i).isNone = !bit b.all i := by
  rw [hw.rep.all_bit]
  cases absBoard b i <;> rfl

theorem typeAt_bits (b : Board) (hw : WF b) (j : Nat) (f : Piece) :
    bit (b.typeBits f) j = decide (typeAt b j = some f) := by
  rw [hw.rep.type_bit, absBoard_apply]
  cases typeAt b j with
  | none => rfl
  | some t => exact (toSpec_beq t f).trans (by simp only [Option.some.injEq])

theorem typeAt_some_bits (b : Board) (hw : WF b) (j : Nat) (t : Piece)
    (ht : typeAt b j = some t) : ∀ f : Piece, bit (b.typeBits f) j = decide (f = t) := by
  intro f
  rw [typeAt_bits b hw j f, ht]
  simp only [Option.some.injEq, eq_comm]

theorem typeAt_none_bits (b : Board) (j : Nat) (ht : typeAt b j = none) :
    ∀ f : Piece, bit (b.typeBits f) j = false := by
  unfold typeAt at ht
  have key : bit b.elephants j = false ∧ bit b.camels j = false ∧ bit b.horses j = false ∧
      bit b.dogs j = false ∧ bit b.cats j = false ∧ bit b.rabbits j = false := by
    revert ht
    generalize bit b.elephants j = e; generalize bit b.camels j = m; generalize bit b.horses j = h
    generalize bit b.dogs j = d; generalize bit b.cats j = c; generalize bit b.rabbits j = r
    revert e m h d c r
    decide
  obtain ⟨e, m, h, d, c, r⟩ := key
  exact fun f => match f with
    | .elephant => e | .camel => m | .horse => h | .dog => d | .cat => c | .rabbit => r

theorem typeAt_of_abs (b : Board) (j : Nat) (c : Cell) (hc : absBoard b j = some c) :
    ∃ t, typeAt b j = some t ∧ toSpec t = c.piece ∧ c.gold = bit b.p1 j := by
  rw [absBoard_apply] at hc
  cases ht : typeAt b j with
  | none => rw [ht] at hc; cases hc
  | some t => rw [ht] at hc; cases hc; exact ⟨t, rfl, rfl, rfl⟩

theorem absBoard_gold (b : Board) (i : Nat) (c : Cell) (hc : absBoard b i = some c) :
    c.gold = bit b.p1 i := by
  obtain ⟨_, _, _, h⟩ := typeAt_of_abs b i c hc
  exact h

theorem str_eq (b : Board) (j : Nat) :
    str b j = match typeAt b j with | some t => (toSpec t).strength | none => 0 := by
  unfold str typeAt
  generalize bit b.elephants j = e; generalize bit b.camels j = m; generalize bit b.horses j = h
  generalize bit b.dogs j = d; generalize bit b.cats j = c; generalize bit b.rabbits j = r
  revert e m h d c r
  decide +kernel

theorem str_abs (b : Board) (j : Nat) : str b j = cellStr (absBoard b j) := by
  rw [str_eq, absBoard_apply]; cases typeAt b j <;> rfl

theorem str_eq_strength (b : Board) (j : Nat) (t : Piece) (ht : typeAt b j = some t) :
    str b j = (toSpec t).strength := by
  rw [str_eq, ht]

theorem str_le (b : Board) (j : Nat) : str b j ≤ 5 := by
  rw [str_eq]
  cases typeAt b j with
  | none => decide
  | some t => cases t <;> decide

theorem WF.union {b : Board} (hw : WF b) :
    b.all = b.elephants ||| b.camels ||| b.horses ||| b.dogs ||| b.cats ||| b.rabbits :=
  bb_ext _ _ fun i hi => by rw [hw.all_eq i hi]; simp only [bit_or]

theorem WF.typeBits_and_all {b : Board} (hw : WF b) (g : Piece) : b.typeBits g &&& b.all = b.typeBits g :=
  bb_ext _ _ fun i _ => by rw [bit_and, hw.rep.type_bit, hw.rep.all_bit]; cases absBoard b i <;> simp

theorem WF.p1_and_all {b : Board} (hw : WF b) : b.p1 &&& b.all = b.p1 :=
  bb_ext _ _ fun i _ => by
    rw [bit_and, hw.rep.p1_bit, hw.rep.all_bit]; unfold ownedBy; cases absBoard b i <;> simp

def pieceSum (c : Piece → Nat) : Nat :=
  c .elephant + c .camel + c .horse + c .dog + c .cat + c .rabbit

theorem pieceSum_toNat_le_one (f : Piece → Bool) (hd : ∀ t u, t ≠ u → (f t && f u) = false) :
    pieceSum (fun t => (f t).toNat) ≤ 1 := by
  by_cases h : ∃ t, f t = true
  · -- `t` is set, so nothing else is: the flags are the indicator of `t`
    obtain ⟨t, ht⟩ := h
    have hf : f = fun u => t == u := by
      funext u
      by_cases e : t = u
      · rw [← e, ht]; exact (beq_self_eq_true t).symm
      · have := hd u t (Ne.symm e)
        rw [ht, Bool.and_true] at this
        rw [this]; exact (beq_false_of_ne e).symm
    rw [hf]
    cases t <;> decide
  · have hf : f = fun _ => false := by
      funext u
      cases hu : f u
      · rfl
      · exact absurd ⟨u, hu⟩ h
    rw [hf]; decide

theorem wf_of_union_disjoint (b : Board)
    (hu : b.all = b.elephants ||| b.camels ||| b.horses ||| b.dogs ||| b.cats ||| b.rabbits)
    (hd : ∀ t u, t ≠ u → b.typeBits t &&& b.typeBits u = 0)
    (hp : ∀ i, i < 64 → bit b.p1 i = true → bit b.all i = true) : WF b := by
  refine ⟨?_, ?_, hp⟩
  · intro i _
    apply pieceSum_toNat_le_one (fun t => bit (b.typeBits t) i)
    intro t u htu
    rw [← bit_and, hd t u htu, bit_zero]
  · intro i _
    rw [hu]; simp only [bit_or]

def wfWords (b : Board) : Bool :=
  b.all == (b.elephants ||| b.camels ||| b.horses ||| b.dogs ||| b.cats ||| b.rabbits) &&
    (Piece_ALL.all fun t => Piece_ALL.all fun u => t == u || b.typeBits t &&& b.typeBits u == 0) &&
    b.p1 &&& b.all == b.p1

theorem wf_of_wfWords (b : Board) (h : wfWords b = true) : WF b := by
  unfold wfWords at h
  rw [Bool.and_eq_true, Bool.and_eq_true, beq_iff_eq, beq_iff_eq, List.all_eq_true] at h
  obtain ⟨⟨hu, hd⟩, hp⟩ := h
  apply wf_of_union_disjoint b hu
  · intro t u htu
    have := List.all_eq_true.mp (hd t (mem_Piece_ALL t)) u (mem_Piece_ALL u)
    rw [Bool.or_eq_true, beq_iff_eq, beq_iff_eq] at this
    exact this.resolve_left htu
  · intro i _ hi
    rw [← hp, bit_and] at hi
    exact (Bool.and_eq_true_iff.mp hi).2

end Arimaa
