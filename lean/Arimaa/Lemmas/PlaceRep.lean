import Arimaa.Lemmas.Abs
import Arimaa.Lemmas.Place
import Arimaa.Lemmas.SquareBits

/-!
`place` against what the board represents (`Rep`): it puts the mover's piece on the square of the placement
bit.  Apart from Lemmas/Place.lean because the hash of a placement (Lemmas/HashPlace.lean) is proved without the
abstraction, from the inclusions of `PlaceReady` alone.
-/
namespace Arimaa

theorem place_plane (s : GameState) (p : Piece)
    (hu : s.board.all = s.board.elephants ||| s.board.camels ||| s.board.horses ||| s.board.dogs
      ||| s.board.cats ||| s.board.rabbits) (π : Plane) :
    (s.place p).board.plane π = s.board.plane π |||
      (if π.shows (some ⟨s.p1Turn, toSpec p⟩) then s.board.placementBit else 0) := by
  cases π with
  | p1 => exact place_p1 s p
  | all => exact place_all s p hu
  | type t =>
    show (s.place p).board.typeBits t = s.board.typeBits t ||| _
    rw [place_typeBits]
    show _ = s.board.typeBits t ||| (if (toSpec p == toSpec t) = true then _ else _)
    rw [toSpec_beq]
    by_cases e : t = p
    · rw [if_pos e, if_pos (decide_eq_true e.symm)]
    · rw [if_neg e, if_neg (by simpa using Ne.symm e)]; exact (BitVec.or_zero).symm

theorem Rep.place {s : GameState} {β : Spec.Board} (h : Rep s.board β) {q : Nat} (hq : q < 64)
    (hpb : s.board.placementBit = sqBit q) (hfree : β q = none) (p : Piece) :
    Rep (s.place p).board (fun i => if i = q then some ⟨s.p1Turn, toSpec p⟩ else β i) := by
  intro i π
  show _ = π.shows (if i = q then _ else β i)
  rw [place_plane s p (Rep.wf h).union π, hpb, bit_or, h i π]
  by_cases e : i = q
  · subst e
    rw [hfree, if_pos (rfl : i = i), Plane.shows_none, Bool.false_or]
    cases π.shows (some ⟨s.p1Turn, toSpec p⟩)
    · exact bit_zero i
    · rw [if_pos rfl, sqBit_bit _ _ hq]; exact decide_eq_true rfl
  · rw [if_neg e]
    have : bit (if π.shows (some ⟨s.p1Turn, toSpec p⟩) = true then sqBit q else 0) i = false := by
      split
      · rw [sqBit_bit _ _ hq]; exact decide_eq_false e
      · exact bit_zero i
    rw [this, Bool.or_false]

end Arimaa
