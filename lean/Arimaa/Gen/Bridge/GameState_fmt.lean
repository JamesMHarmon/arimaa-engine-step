-- GENERATED by /verif/tools/gen.py -- do not edit.  Bridge from the current text of `GameState::fmt` to the baseline text.
import Arimaa.Gen.Rs
import Arimaa.Gen.RsBase
import Arimaa.Gen.BridgeLadder
import Arimaa.Gen.Bridge.GameState_is_p1_turn_to_move
import Arimaa.Gen.Bridge.GameState_move_number
import Arimaa.Gen.Bridge.GameState_piece_board
import Arimaa.Gen.Bridge.PieceBoardState_piece_type_at_square
import Arimaa.Gen.Bridge.convert_piece_to_letter
import Arimaa.Gen.Bridge.is_p1_piece

namespace Arimaa.Gen.Bridge
open Arimaa Arimaa.Gen Arimaa.Rt

set_option maxHeartbeats 1000000 in
theorem bridge_GameState_fmt : @Rs.GameState_fmt = @RsBase.GameState_fmt := by
  funext a0 a1
  rs_ladder [Rs.GameState_fmt, RsBase.GameState_fmt, bridge_GameState_is_p1_turn_to_move, bridge_GameState_move_number, bridge_GameState_piece_board, bridge_PieceBoardState_piece_type_at_square, bridge_convert_piece_to_letter, bridge_is_p1_piece] [RsBase.GameState_is_p1_turn_to_move, RsBase.GameState_move_number, RsBase.GameState_piece_board, RsBase.PieceBoardState_piece_type_at_square, RsBase.convert_piece_to_letter, RsBase.is_p1_piece] (skip) [Rs.GameState_fmt, RsBase.GameState_fmt, Rs.GameState_is_p1_turn_to_move, Rs.GameState_move_number, Rs.GameState_piece_board, Rs.PieceBoardState_piece_type_at_square, Rs.PieceBoardState_player_piece_mask, Rs.PieceBoard_piece_board, Rs.convert_piece_to_letter, Rs.is_p1_piece, Rs.piece_type_at_bit, RsBase.GameState_is_p1_turn_to_move, RsBase.GameState_move_number, RsBase.GameState_piece_board, RsBase.PieceBoardState_piece_type_at_square, RsBase.PieceBoardState_player_piece_mask, RsBase.PieceBoard_piece_board, RsBase.convert_piece_to_letter, RsBase.is_p1_piece, RsBase.piece_type_at_bit]

end Arimaa.Gen.Bridge
