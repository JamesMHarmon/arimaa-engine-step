import Arimaa.Lemmas.Notation
import Arimaa.Lemmas.SquareBits

/-!
C16 — Action/square notation round-trips; malformed text is rejected without panic.

Text is `List Char` (the repaired `FromStr` impls work on `chars()`); `Outcome` distinguishes
`Ok` / `Err` / panic.  A square is its index (`Nat`, valid when `< 64`), so `Square::from_index`
and `Square::index` are the identity in the model.
-/
namespace Arimaa
open Gen

/-- Every action (moves restricted to the 64 board squares) prints to a text that parses back to
the same action. -/
theorem C16_action_roundtrip (a : Action) (h : ∀ sq d, a = .move sq d → sq < 64) :
    parseAction (showAction a) = .ok a :=
  parseAction_showAction a h

/-- Every board square prints to a text that parses back to the same square. -/
theorem C16_square_roundtrip (sq : Nat) (h : sq < 64) : parseSquare (showSquare sq) = .ok sq :=
  parseSquare_showSquare sq h

/-- Every piece prints to a text that parses back to the same piece; so does its upper-case letter. -/
theorem C16_piece_roundtrip (p : Piece) :
    parsePiece (showPiece p) = .ok p ∧ parsePiece [(pieceLetter p).toUpper] = .ok p :=
  ⟨parsePiece_showPiece p, parsePiece_upper p⟩

/-- Every direction prints to a text that parses back to the same direction. -/
theorem C16_dir_roundtrip (d : Dir) : parseDir (showDir d) = .ok d :=
  parseDir_showDir d

/-- For each of the 64 squares: bit board and square are mutually inverse (`from_bit_board ∘
as_bit_board = id`, and `as_bit_board` is injective with exactly bit `sq` set, so it is the one-bit
board of that index and `map_bit_board_to_squares` gives back `[sq]`); `new (column_char s) (row s) = s`;
and the printed form is the file letter `'a' + sq % 8` followed by the rank digit `8 - sq / 8`. -/
theorem C16_square_conversions (sq : Nat) (h : sq < 64) :
    sqOfBit (sqBit sq) = sq ∧
    sqNew (sqColumnChar sq) (sqRow sq) = sq ∧
    showSquare sq = [Char.ofNat ('a'.toNat + sq % 8), Char.ofNat ('0'.toNat + (8 - sq / 8))] ∧
    (∀ i, bit (sqBit sq) i = decide (i = sq)) ∧
    sqBit sq ≠ 0 ∧
    squaresOf (sqBit sq) = [sq] ∧
    (∀ sq', sq' < 64 → sqBit sq = sqBit sq' → sq = sq') :=
  ⟨sqOfBit_sqBit sq h, sqNew_column_row sq h, showSquare_eq sq, fun i => sqBit_bit sq i h,
    sqBit_ne_zero sq h, squaresOf_sqBit sq h, fun sq' h' e => sqBit_injective sq sq' h h' e⟩

/-- Converse direction of the coordinate conversion: `Square::new` on file letter number `i` (`a`..`h`)
and rank `j + 1` (`1`..`8`) is one of the 64 squares, and its `column_char` and `row` are that file
letter and that rank. -/
theorem C16_square_new_inverse (i j : Fin 8) :
    sqNew (Char.ofNat ('a'.toNat + i.1)) (j.1 + 1) < 64 ∧
    sqColumnChar (sqNew (Char.ofNat ('a'.toNat + i.1)) (j.1 + 1)) = Char.ofNat ('a'.toNat + i.1) ∧
    sqRow (sqNew (Char.ofNat ('a'.toNat + i.1)) (j.1 + 1)) = j.1 + 1 := by
  rw [show 'a'.toNat = 97 from rfl]
  exact sqNew_inverse _ _ (by rw [toNat_ofNat_lt _ (by omega)]; omega) ⟨Nat.succ_pos _, j.2⟩

/-- A one-bit board converts to a square and back to the same board. -/
theorem C16_bit_square_bit (x : BB) (h : ∃ sq, sq < 64 ∧ x = sqBit sq) : sqBit (sqOfBit x) = x := by
  obtain ⟨sq, hs, rfl⟩ := h
  rw [sqOfBit_sqBit sq hs]

/-- If ANY text parses as an action, the text is the printed form of that action, or the action is a
placement and the text is the upper-case piece letter. -/
theorem C16_only_printed_forms (t : List Char) (a : Action) (h : parseAction t = .ok a) :
    t = showAction a ∨ ∃ p, a = .place p ∧ t = [(pieceLetter p).toUpper] :=
  (parseAction_ok t a h).2

/-- If ANY text parses as a square, the result is one of the 64 squares and the text is its printed form. -/
theorem C16_only_printed_forms_square (t : List Char) (sq : Nat) (h : parseSquare t = .ok sq) :
    sq < 64 ∧ t = showSquare sq :=
  parseSquare_ok t sq h

/-- If ANY text parses as a piece, the text is its printed letter or the upper-case letter. -/
theorem C16_only_printed_forms_piece (t : List Char) (p : Piece) (h : parsePiece t = .ok p) :
    t = showPiece p ∨ t = [(pieceLetter p).toUpper] :=
  parsePiece_ok t p h

/-- If ANY text parses as a direction, the text is its printed form. -/
theorem C16_only_printed_forms_dir (t : List Char) (d : Dir) (h : parseDir t = .ok d) :
    t = showDir d :=
  parseDir_ok t d h

/-- A parsed action is always on the board: a parsed move has a square `< 64`. -/
theorem C16_parsed_move_on_board (t : List Char) (sq : Nat) (d : Dir)
    (h : parseAction t = .ok (.move sq d)) : sq < 64 :=
  (parseAction_ok t _ h).1 sq d rfl

/-- Exact characterisation: a text parses to the action `a` iff `a` is on the board and the text is
its printed form or (for placements) the upper-case piece letter. -/
theorem C16_parse_action_iff (t : List Char) (a : Action) :
    parseAction t = .ok a ↔
      (∀ sq d, a = .move sq d → sq < 64) ∧
      (t = showAction a ∨ ∃ p, a = .place p ∧ t = [(pieceLetter p).toUpper]) := by
  refine ⟨parseAction_ok t a, ?_⟩
  rintro ⟨hb, h | ⟨p, rfl, h⟩⟩
  · subst h; exact parseAction_showAction a hb
  · subst h; cases p <;> rfl

/-- Exact characterisation for squares. -/
theorem C16_parse_square_iff (t : List Char) (sq : Nat) :
    parseSquare t = .ok sq ↔ sq < 64 ∧ t = showSquare sq := by
  constructor
  · exact parseSquare_ok t sq
  · rintro ⟨h, rfl⟩; exact parseSquare_showSquare sq h

/-- None of the four parsers panics, on any text. -/
theorem C16_no_panic (t : List Char) :
    parseAction t ≠ .panic ∧ parseSquare t ≠ .panic ∧ parsePiece t ≠ .panic ∧ parseDir t ≠ .panic :=
  ⟨parseAction_no_panic t, parseSquare_no_panic t, parsePiece_no_panic t, parseDir_no_panic t⟩

/-- `squaresOf x` lists exactly the set bits of `x` (all `< 64`), in strictly ascending order and
hence without duplicates. -/
theorem C16_squares_of_bitboard (x : BB) :
    (∀ i, i ∈ squaresOf x ↔ i < 64 ∧ bit x i = true) ∧
    (squaresOf x).Pairwise (· < ·) ∧
    (squaresOf x).Nodup :=
  ⟨mem_squaresOf x, squaresOf_sorted x, squaresOf_nodup x⟩

example : showAction (.move 56 .up) = "a1n".toList := by decide +kernel
example : parseAction "a1n".toList = .ok (.move 56 .up) := by decide +kernel
example : parseAction "h8w".toList = .ok (.move 7 .left) := by decide +kernel
example : parseAction "p".toList = .ok .pass := by decide +kernel
example : parseAction "e".toList = .ok (.place .elephant) := by decide +kernel
-- the upper-case alternative of `C16_only_printed_forms` really occurs and is not the printed form
example : parseAction "R".toList = .ok (.place .rabbit) ∧ "R".toList ≠ showAction (.place .rabbit) := by
  decide +kernel
-- the bound `sq < 64` of the round trip is needed: square 64 prints as "a0", which is rejected
example : parseAction (showAction (.move 64 .up)) = .err := by decide +kernel
-- malformed texts of findings F1-F3 are rejected, not panics
example : parseAction ['a', 'é', 'n'] = .err := by decide +kernel
example : parseSquare "A1".toList = .err := by decide +kernel
example : parseSquare "`1".toList = .err := by decide +kernel
example : parseSquare "11".toList = .err := by decide +kernel
example : parseAction "A1n".toList = .err := by decide +kernel
example : parseSquare [Char.ofNat 0x161, '1'] = .err := by decide +kernel
example : parseSquare "a9".toList = .err ∧ parseSquare "i1".toList = .err ∧ parseSquare "a0".toList = .err := by
  decide +kernel
example : parseAction [] = .err ∧ parseAction "a1".toList = .err ∧ parseAction "a1nn".toList = .err := by
  decide +kernel
example : showSquare 18 = "c6".toList ∧ sqOfBit (sqBit 18) = 18 ∧ sqNew 'c' 6 = 18 := by decide +kernel
example : squaresOf 0x8000000000000005#64 = [0, 2, 63] := by decide +kernel

end Arimaa
