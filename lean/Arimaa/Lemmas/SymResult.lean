import Arimaa.Lemmas.Result
import Arimaa.Lemmas.SymTransfer

/-! The action of the symmetries on the model's `Terminal`, for the result clause of C11. -/
namespace Arimaa

def Spec.Sym.ires : Spec.Sym → Terminal → Terminal
  | .mirror, t => t
  | .swap, .goldWin => .silverWin | .swap, .silverWin => .goldWin
  | .both, .goldWin => .silverWin | .both, .silverWin => .goldWin

theorem terminalOf_res (σ : Spec.Sym) (r : Spec.Result) : terminalOf (σ.res r) = σ.ires (terminalOf r) := by
  cases σ <;> cases r <;> rfl

theorem ires_loser (σ : Spec.Sym) (g : Bool) :
    σ.ires (if g then Terminal.silverWin else Terminal.goldWin) =
      (if σ.col g then Terminal.silverWin else Terminal.goldWin) := by
  cases σ <;> cases g <;> rfl

/-- in the middle of a turn the result is read off the offered list (`isTerminal_mid_turn_eq`), so the results of
related states correspond as soon as their offered lists do -/
theorem symRel_isTerminal_mid (σ : Spec.Sym) (s s' : GameState) (pp pp' : PlayPhase) (h : PlayInv s pp)
    (h' : PlayInv s' pp') (hr : SymRel σ s pp s' pp') (hpos : pp.step > 0)
    (hoff : ∀ a, σ.iact a ∈ s'.validActions ↔ a ∈ s.validActions) :
    s'.isTerminal = s.isTerminal.map σ.ires := by
  have hnil : s'.validActions = [] ↔ s.validActions = [] := by
    simp only [List.eq_nil_iff_forall_not_mem]
    exact ⟨fun e a ha => e _ ((hoff a).2 ha), fun e a' ha' => e _ ((hoff _).1 (by rwa [iact_iact]))⟩
  rw [GameState.isTerminal_mid_turn_eq s pp h.phase hpos h.step_le,
    GameState.isTerminal_mid_turn_eq s' pp' h'.phase (hr.step ▸ hpos) h'.step_le, hr.turn]
  by_cases hv : s.validActions = []
  · rw [if_pos hv, if_pos (hnil.2 hv)]; simp only [Option.map, ires_loser]
  · rw [if_neg hv, if_neg (mt hnil.1 hv)]; rfl

end Arimaa
