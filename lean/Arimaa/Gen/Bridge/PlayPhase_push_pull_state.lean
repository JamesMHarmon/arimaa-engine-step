-- GENERATED by /verif/tools/gen.py -- do not edit.  Bridge from the current text of `PlayPhase::push_pull_state` to the baseline text.
import Arimaa.Gen.Rs
import Arimaa.Gen.RsBase
import Arimaa.Gen.BridgeLadder

namespace Arimaa.Gen.Bridge
open Arimaa Arimaa.Gen Arimaa.Rt

set_option maxHeartbeats 1000000 in
theorem bridge_PlayPhase_push_pull_state : @Rs.PlayPhase_push_pull_state = @RsBase.PlayPhase_push_pull_state := by
  funext a0
  rs_ladder [Rs.PlayPhase_push_pull_state, RsBase.PlayPhase_push_pull_state] [] (skip) [Rs.PlayPhase_push_pull_state, RsBase.PlayPhase_push_pull_state]

end Arimaa.Gen.Bridge
