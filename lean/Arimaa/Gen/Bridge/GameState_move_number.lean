-- GENERATED by /verif/tools/gen.py -- do not edit.  Bridge from the current text of `GameState::move_number` to the baseline text.
import Arimaa.Gen.Rs
import Arimaa.Gen.RsBase
import Arimaa.Gen.BridgeLadder

namespace Arimaa.Gen.Bridge
open Arimaa Arimaa.Gen Arimaa.Rt

set_option maxHeartbeats 1000000 in
theorem bridge_GameState_move_number : @Rs.GameState_move_number = @RsBase.GameState_move_number := by
  funext a0
  rs_ladder [Rs.GameState_move_number, RsBase.GameState_move_number] [] (skip) [Rs.GameState_move_number, RsBase.GameState_move_number]

end Arimaa.Gen.Bridge
