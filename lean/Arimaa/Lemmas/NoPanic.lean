import Arimaa.Lemmas.PanicPlay
import Arimaa.Lemmas.Sim
import Arimaa.Lemmas.PlayStart
import Arimaa.Lemmas.StartInv
import Arimaa.Lemmas.ParsePrint

/-!
C19 — the panic guards of `Impl/Panics.lean` are false on reachable states: `PanicInv`, what the guards need of a
play-phase state, is kept along steps; the setup phase is separate; `NoPanic.Reach` is the closure it all holds on.
-/
namespace Arimaa
open Spec GameState

structure PanicInv (s : GameState) (pp : PlayPhase) : Prop where
  play : PlayInv s pp
  hashable : StatusHashable pp.pps

/-- the lemmas below give `∃ pp, PanicInv s pp`; C19's statements spell the bundle out -/
theorem panicInv_and {s : GameState} :
    (∃ pp, PanicInv s pp) → ∃ pp, PlayInv s pp ∧ StatusHashable pp.pps :=
  fun ⟨pp, h⟩ => ⟨pp, h.play, h.hashable⟩

theorem statusHashable_abs (p : PPS) : StatusHashable p ↔ (absPend p).Hashable := by
  cases p with
  | none => exact Iff.rfl
  | possiblePull q x => cases x <;> simp [StatusHashable, absPend, Spec.Pending.Hashable, toSpec]
  | mustCompletePush q v => cases v <;> simp [StatusHashable, absPend, Spec.Pending.Hashable, toSpec]

theorem panicInv_step (s : GameState) (pp : PlayPhase) (h : PanicInv s pp) (a : Action)
    (ha : a ∈ s.validActionsNoRep) : ∃ pp', PanicInv (s.takeAction a) pp' := by
  obtain ⟨a', pp', _, he, h', hs⟩ := sim_step s pp h.play a ha
  have hh : (absState (s.takeAction a) pp').pend.Hashable := hs ▸ State.next_hashable _ a' he
  exact ⟨pp', h', (statusHashable_abs _).mpr hh⟩

theorem panicInv_run (s : GameState) (pp : PlayPhase) (h : PanicInv s pp) (as : List Action)
    (ho : OfferedNR s as) : ∃ pp', PanicInv (s.run as) pp' :=
  OfferedNR.induction panicInv_step s pp h as ho

theorem setupRun_panicInv {ps : List Piece} {s : GameState} (hr : SetupRun ps s) (h32 : ps.length = 32) :
    ∃ pp, PanicInv s pp :=
  ⟨_, setupRun_playInv hr h32, trivial⟩

theorem panicInv_parsed (t : List Char) (s : GameState) (h : parseState t = .ok s) :
    ∃ pp, PanicInv s pp :=
  ⟨_, (parseState_startOk t s h).playInv, trivial⟩

/-- `first_set_bit` answers a square only for a non-zero word (`first_set_bit 0 = 0` in the model) -/
theorem firstSetBitPanics_false_of_sqBit {x : BB} {q : Nat} (hq : q < 64) (h : firstSetBit x = sqBit q) :
    firstSetBitPanics x = false := by
  apply beq_false_of_ne
  intro h0
  subst h0
  exact sqBit_ne_zero q hq (h.symm.trans (by decide))

/-- `placement_bit` finds a free square, so `first_set_bit` does not shift by 64, and the square it names is on the
board -/
theorem placePanics_false_setup {k : Nat} {s : GameState} (h : SetupShape k s) (p : Piece) :
    s.placePanics p = false := by
  have hq := placementSquare_lt k h.lt
  have hpb := h.board.placementBit_eq h.lt
  have h1 : s.board.placementBitPanics = false := firstSetBitPanics_false_of_sqBit hq hpb
  unfold placePanics
  rw [h1, h.board.sqOfBit_placementBit h.lt]
  simpa [panic_eq] using hq

theorem place_queries_no_panic (s : GameState) (hph : s.phase = .place) :
    s.validActions_Panics true = false ∧ s.validActions_Panics false = false ∧ s.isTerminalPanics = false ∧
    (∀ b, s.hasMovePanics b = false) ∧ (∀ r, s.canPassPanics r = false) ∧
    s.transpositionHashPanics = false := by
  simp [validActions_Panics, isTerminalPanics, hasMovePanics, canPassPanics, transpositionHashPanics, hph]

theorem place_step_queries_panic (s : GameState) (hph : s.phase = .place) :
    s.stepPanics = true ∧ ∀ i, s.pieceBoardForStepPanics i = true := by
  simp [stepPanics, unwrapPlayPhasePanics, isPlay, playPhase?, pieceBoardForStepPanics, hph]

namespace NoPanic

/-- **Reachable states**: the closure of `GameState::initial()` and of every parsed position under
the actions of the rule-only list `valid_actions_no_rep()` (a superset of the offered list
`valid_actions()`, so this closure contains every state reachable by offered actions). -/
inductive Reach : GameState → Prop
  | initial : Reach GameState.initial
  | parsed (t : List Char) (s : GameState) : parseState t = .ok s → Reach s
  | step {s : GameState} {a : Action} : Reach s → a ∈ s.validActionsNoRep → Reach (s.takeAction a)

theorem Reach.step_offered {s : GameState} {a : Action} (h : Reach s) (ha : a ∈ s.validActions) :
    Reach (s.takeAction a) := h.step (mem_noRep_of_mem_validActions s a ha)

theorem reach_cases {s : GameState} (h : Reach s) :
    (∃ ps, SetupRun ps s ∧ ps.length < 32) ∨ (∃ pp, PanicInv s pp) := by
  induction h with
  | initial => exact Or.inl ⟨[], SetupRun.init, by decide⟩
  | parsed t s hp => exact Or.inr (panicInv_parsed t s hp)
  | @step s a _ ha ih =>
    rcases ih with ⟨ps, hr, hlt⟩ | ⟨pp, hpi⟩
    · obtain ⟨p, rfl, hv⟩ := place_of_mem_noRep s (setupRun_shape hr hlt).phase a ha
      have hr' := SetupRun.step hr hv
      by_cases h32 : (ps ++ [p]).length < 32
      · exact Or.inl ⟨_, hr', h32⟩
      · have hle := setupRun_length_le hr'
        exact Or.inr (setupRun_panicInv hr' (by omega))
    · exact Or.inr (panicInv_step s pp hpi a ha)

end NoPanic

end Arimaa
