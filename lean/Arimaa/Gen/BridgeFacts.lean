import Arimaa.Impl.Basic

/-!
Facts about the data (not about control flow) that bridges may use: rewriting rules between equivalent tests on a
bitboard.  Hand-written, proved here.
-/
namespace Arimaa.Gen.Bridge
open Arimaa

/-- `x.count_ones() < 1` against `x == 0` -/
theorem popcount_blt_one (x : BB) : Nat.blt (popcount x) 1 = (x == 0) := by
  have key : popcount x = 0 ↔ x = 0 := by
    unfold popcount squaresOf
    rw [List.length_eq_zero_iff, List.filter_eq_nil_iff]
    constructor
    · intro h
      apply BitVec.eq_of_getLsbD_eq
      intro i hi
      have := h i (List.mem_range.mpr hi)
      simpa using this
    · intro h i _
      subst h
      simp
  by_cases hx : x = 0#64
  · have h0 := key.mpr hx
    rw [h0, hx]
    rfl
  · have h0 : popcount x ≠ 0 := fun h => hx (key.mp h)
    have hb : Nat.blt (popcount x) 1 = false := by
      cases h : Nat.blt (popcount x) 1
      · rfl
      · have := Nat.blt_eq.mp h
        omega
    rw [hb]
    exact (beq_eq_false_iff_ne.mpr hx).symm

end Arimaa.Gen.Bridge
