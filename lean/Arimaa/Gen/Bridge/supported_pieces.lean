-- GENERATED by /verif/tools/gen.py -- do not edit.  Bridge from the current text of `supported_pieces` to the baseline text.
import Arimaa.Gen.Rs
import Arimaa.Gen.RsBase
import Arimaa.Gen.BridgeLadder

namespace Arimaa.Gen.Bridge
open Arimaa Arimaa.Gen Arimaa.Rt

set_option maxHeartbeats 1000000 in
theorem bridge_supported_pieces : @Rs.supported_pieces = @RsBase.supported_pieces := by
  funext a0
  rs_ladder [Rs.supported_pieces, RsBase.supported_pieces] [] (skip) [Rs.supported_pieces, RsBase.supported_pieces]

end Arimaa.Gen.Bridge
