-- GENERATED by /verif/tools/gen.py -- do not edit.  Bridge from the current text of `GameState::piece_board_for_step` to the baseline text.
import Arimaa.Gen.Rs
import Arimaa.Gen.RsBase
import Arimaa.Gen.BridgeLadder
import Arimaa.Gen.Bridge.GameState_current_step
import Arimaa.Gen.Bridge.GameState_unwrap_play_phase
import Arimaa.Gen.Bridge.PieceBoard_piece_board

namespace Arimaa.Gen.Bridge
open Arimaa Arimaa.Gen Arimaa.Rt

set_option maxHeartbeats 1000000 in
theorem bridge_GameState_piece_board_for_step : @Rs.GameState_piece_board_for_step = @RsBase.GameState_piece_board_for_step := by
  funext a0 a1
  rs_ladder [Rs.GameState_piece_board_for_step, RsBase.GameState_piece_board_for_step, bridge_GameState_current_step, bridge_GameState_unwrap_play_phase, bridge_PieceBoard_piece_board] [RsBase.GameState_current_step, RsBase.GameState_unwrap_play_phase, RsBase.PieceBoard_piece_board] (skip) [Rs.GameState_piece_board_for_step, RsBase.GameState_piece_board_for_step, Rs.GameState_as_play_phase, Rs.GameState_current_step, Rs.GameState_unwrap_play_phase, Rs.PieceBoard_piece_board, Rs.PlayPhase_step, RsBase.GameState_as_play_phase, RsBase.GameState_current_step, RsBase.GameState_unwrap_play_phase, RsBase.PieceBoard_piece_board, RsBase.PlayPhase_step]

end Arimaa.Gen.Bridge
