import Arimaa.Props.C05
import Arimaa.Lemmas.ParsePrint

/-!
C05, start states: every parsed position is a start state, so C05's theorems apply "since the position
was parsed" without side condition.
-/
namespace Arimaa

/-- Every text that parses yields a start state for C05/C06: play phase, fresh per-turn record,
from-scratch hash, well-formed board. -/
theorem C05_start_of_any_parse (t : List Char) (s : GameState) (h : parseState t = .ok s) : StartOk s :=
  parseState_startOk t s h

/-- `C05_no_third_occurrence` for every game from every parsed position: no position occurs a third
time at a start of turn.  (The first clause from a parsed position: `C05_turn_changes_board` with
`C05_start_of_any_parse`.) -/
theorem C05_from_any_parse (t : List Char) (s0 : GameState) (h : parseState t = .ok s0) (as : List Action)
    (ho : Offered s0 as) (p : Board × Bool) : (turnStarts s0 as).count p ≤ 2 :=
  C05_no_third_occurrence s0 (C05_start_of_any_parse t s0 h) as ho p

end Arimaa
