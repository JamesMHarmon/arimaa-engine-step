import Arimaa.Impl.Engine

/-!
General facts about lists, then the list-level facts about the action generator `validActions_`, the repetition
filter `removePassingLikeActions`, its mirror `hasNonPassingLikeAction`, and `hasMove`.  No bit-level reasoning.
-/

theorem List.snoc_induction {α : Type _} {P : List α → Prop} (nil : P [])
    (snoc : ∀ l a, P l → P (l ++ [a])) : ∀ l, P l := by
  intro l
  rw [← List.reverse_reverse l]
  generalize l.reverse = r
  induction r with
  | nil => exact nil
  | cons a r ih => rw [List.reverse_cons]; exact snoc _ _ ih

namespace Arimaa

theorem head?_snoc_snoc {α : Type} (l : List α) (a b : α) :
    (l ++ [a] ++ [b]).head? = (l ++ [a]).head? := by cases l <;> rfl

theorem countP_set (f g : Nat → Bool) (q : Nat) (v : Bool) (hq : f q = false)
    (hg : ∀ i, g i = (f i || (decide (i = q) && v))) :
    ∀ l : List Nat, l.Nodup → l.countP g = l.countP f + (if q ∈ l then v.toNat else 0) := by
  intro l
  induction l with
  | nil => intro _; rfl
  | cons a l ih =>
    intro hnd
    rw [List.nodup_cons] at hnd
    rw [List.countP_cons, List.countP_cons, ih hnd.2]
    by_cases ha : a = q
    · subst ha
      rw [hg, hq, decide_eq_true rfl, if_neg hnd.1, if_pos List.mem_cons_self]
      cases v <;> rfl
    · have h1 : g a = f a := by rw [hg, decide_eq_false ha, Bool.false_and, Bool.or_false]
      have h2 : (q ∈ a :: l) ↔ q ∈ l := by rw [List.mem_cons, or_iff_right (Ne.symm ha)]
      simp only [h1, h2]
      omega

theorem filterMap_ite {α β : Type} (c : α → Bool) (g : α → β) (l : List α) :
    l.filterMap (fun a => if c a then some (g a) else none) = (l.filter c).map g := by
  induction l with
  | nil => rfl
  | cons a l ih =>
    rw [List.filterMap_cons, List.filter_cons]
    cases h : c a <;> simp [ih]

theorem count_snoc_le {α : Type} [BEq α] [LawfulBEq α] {l : List α} {p : α} {c : α → Nat}
    (hle : ∀ t, l.count t ≤ c t) (hp : l.count p < c p) (t : α) : (l ++ [p]).count t ≤ c t := by
  rw [List.count_append, List.count_singleton]
  have := hle t
  split
  · next e => rw [eq_of_beq e] at hp; omega
  · omega

theorem countP_lt_of_witness (l : List Nat) (p p' : Nat → Bool)
    (hsub : ∀ k ∈ l, p' k = true → p k = true) (k0 : Nat) (hk0 : k0 ∈ l) (h1 : p k0 = true)
    (h2 : p' k0 = false) : l.countP p' < l.countP p := by
  obtain ⟨l1, l2, rfl⟩ := List.append_of_mem hk0
  have m1 := List.countP_mono_left (l := l1) (p := p') (q := p) fun k hk => hsub k (by simp [hk])
  have m2 := List.countP_mono_left (l := l2) (p := p') (q := p) fun k hk => hsub k (by simp [hk])
  simp only [List.countP_append, List.countP_cons, h1, h2, if_true, Bool.false_eq_true, if_false]
  omega

theorem mem_foldl_addIfNew {α β : Type} [BEq α] [LawfulBEq α] (c : β → Bool) (g : β → α)
    (l : List β) (acc : List α) (a : α) :
    a ∈ l.foldl (fun acc d => if c d then (if acc.contains (g d) then acc else acc ++ [g d])
      else acc) acc ↔ a ∈ acc ∨ ∃ d ∈ l, c d = true ∧ a = g d := by
  induction l generalizing acc with
  | nil => simp
  | cons d l ih =>
    simp only [List.foldl_cons]
    rw [ih]
    cases hc : c d
    · simp [hc]
    · cases hm : acc.contains (g d)
      · simp only [Bool.false_eq_true, ↓reduceIte, List.mem_append,
          List.mem_cons, exists_eq_or_imp, hc, true_and, List.not_mem_nil, or_false]
        exact or_assoc
      · have hmem : g d ∈ acc := by simpa using hm
        simp only [↓reduceIte, List.mem_cons, exists_eq_or_imp, hc, true_and]
        constructor
        · rintro (h | h)
          · exact Or.inl h
          · exact Or.inr (Or.inr h)
        · rintro (h | h | h)
          · exact Or.inl h
          · exact Or.inl (by rw [h]; exact hmem)
          · exact Or.inr h

theorem nodup_foldl_addIfNew {α β : Type} [BEq α] [LawfulBEq α] (c : β → Bool) (g : β → α)
    (l : List β) (acc : List α) (h : acc.Nodup) :
    (l.foldl (fun acc d => if c d then (if acc.contains (g d) then acc else acc ++ [g d])
      else acc) acc).Nodup := by
  induction l generalizing acc with
  | nil => exact h
  | cons d l ih =>
    simp only [List.foldl_cons]
    apply ih
    cases c d
    · simpa using h
    · cases hm : acc.contains (g d)
      · have : g d ∉ acc := by simpa using hm
        simp only [Bool.false_eq_true, if_false, if_true]
        rw [List.nodup_append]
        refine ⟨h, by simp, ?_⟩
        intro a ha b hb
        simp only [List.mem_singleton] at hb
        subst hb
        intro e; subst e; exact this ha
      · simpa using h

theorem filter_ne_nil_iff_any {α : Type} (p : α → Bool) (l : List α) : l.filter p ≠ [] ↔ l.any p = true := by
  rw [Ne, List.filter_eq_nil_iff, List.any_eq_true]
  exact ⟨fun h => Classical.byContradiction fun hn => h fun a ha hk => hn ⟨a, ha, hk⟩,
    fun ⟨a, ha, hk⟩ h => h a ha hk⟩

/-- the last line of `has_move` -/
theorem ite_none_some_eq_none {α : Type} (c p : Bool) (x y : α) :
    (if c then none else if p then some x else some y) = none ↔ c = true := by
  cases c <;> cases p <;> simp

theorem ite_none_some_of_ne_none {α : Type} (c p : Bool) (x y : α)
    (h : (if c then none else if p then some x else some y) ≠ none) :
    (if c then none else if p then some x else some y) = some (if p then x else y) := by
  cases c <;> cases p <;> simp_all

theorem mem_Dir_ALL (d : Dir) : d ∈ Gen.Dir_ALL := by cases d <;> decide

def Action.isMove : Action → Bool
  | .move _ _ => true
  | _ => false

theorem Action.isMove_iff (a : Action) : a.isMove = true ↔ ∃ sq d, a = .move sq d := by
  cases a <;> simp [Action.isMove]

theorem Action.ne_pass_of_isMove {a : Action} (h : a.isMove = true) : a ≠ .pass := by
  rintro rfl; cases h

namespace GameState
open Gen

theorem isMove_of_mem_pushActions (s : GameState) (pp : PlayPhase) (b : Board) (a : Action)
    (h : a ∈ s.pushActions pp b) : a.isMove = true := by
  unfold pushActions at h
  split at h
  · simp only at h
    split at h
    · simp only [List.mem_flatMap, List.mem_map] at h
      obtain ⟨d, _, sq, _, rfl⟩ := h
      rfl
    · cases h
  · cases h

theorem isMove_of_mem_ownMoves (s : GameState) (b : Board) (a : Action)
    (h : a ∈ s.ownMoves b) : a.isMove = true := by
  unfold ownMoves at h
  simp only [List.mem_flatMap, List.mem_map] at h
  obtain ⟨d, _, sq, _, rfl⟩ := h
  rfl

theorem mem_pullExtend_acc (s : GameState) (pp : PlayPhase) (b : Board) (acc : List Action) (a : Action) :
    a ∈ s.pullExtend pp b acc ↔ a ∈ acc ∨
      match pp.pps with
      | .possiblePull q x => ∃ d,
        ((shiftPiecesInDirection d (lesserPieces x b &&& s.opponentPieceMask b) &&& sqBit q) != 0) = true ∧
          a = Action.move (sqOfBit (shiftPiecesInOppDirection d (sqBit q))) d
      | _ => False := by
  unfold pullExtend
  cases pp.pps with
  | possiblePull q x =>
    exact (mem_foldl_addIfNew _ _ Dir_ALL acc a).trans (or_congr_right (by simp only [mem_Dir_ALL, true_and]))
  | _ => exact (or_iff_left not_false).symm

theorem mem_pullExtend_nil (s : GameState) (pp : PlayPhase) (b : Board) (a : Action) :
    a ∈ s.pullExtend pp b [] ↔
      match pp.pps with
      | .possiblePull q x => ∃ d,
        ((shiftPiecesInDirection d (lesserPieces x b &&& s.opponentPieceMask b) &&& sqBit q) != 0) = true ∧
          a = Action.move (sqOfBit (shiftPiecesInOppDirection d (sqBit q))) d
      | _ => False :=
  (mem_pullExtend_acc s pp b [] a).trans (by simp only [List.not_mem_nil, false_or])

theorem mem_mustCompletePushActions (s : GameState) (pp : PlayPhase) (b : Board) (a : Action) :
    a ∈ s.mustCompletePushActions pp b ↔
      match pp.pps with
      | .mustCompletePush q v => ∃ d,
        ((shiftPiecesInOppDirection d (sqBit q) &&& s.currPlayerNonFrozenPieces b) != 0 &&
          Piece.lt v (pieceTypeAtBit (shiftPiecesInOppDirection d (sqBit q) &&& s.currPlayerNonFrozenPieces b) b)) = true ∧
        a = Action.move (sqOfBit (shiftPiecesInOppDirection d (sqBit q) &&& s.currPlayerNonFrozenPieces b)) d
      | _ => False := by
  unfold mustCompletePushActions
  cases pp.pps with
  | mustCompletePush q v =>
    simp only [List.mem_flatMap, mem_Dir_ALL, true_and, List.mem_ite_nil_right, List.mem_singleton]
  | _ => exact List.mem_nil_iff a

theorem mem_pullExtend (s : GameState) (pp : PlayPhase) (b : Board) (acc : List Action)
    (a : Action) :
    a ∈ s.pullExtend pp b acc ↔ a ∈ acc ∨ a ∈ s.pullExtend pp b [] := by
  rw [mem_pullExtend_acc, mem_pullExtend_nil]

theorem isMove_of_mem_pullExtend_nil (s : GameState) (pp : PlayPhase) (b : Board) (a : Action)
    (h : a ∈ s.pullExtend pp b []) : a.isMove = true := by
  have h := (mem_pullExtend_nil s pp b a).mp h
  split at h
  · obtain ⟨_, _, rfl⟩ := h; rfl
  · cases h

theorem isMove_of_mem_mustCompletePushActions (s : GameState) (pp : PlayPhase) (b : Board)
    (a : Action) (h : a ∈ s.mustCompletePushActions pp b) : a.isMove = true := by
  have h := (mem_mustCompletePushActions s pp b a).mp h
  split at h
  · obtain ⟨_, _, rfl⟩ := h; rfl
  · cases h

theorem any_pullExtend (s : GameState) (pp : PlayPhase) (b : Board) (acc : List Action)
    (p : Action → Bool) :
    (s.pullExtend pp b acc).any p = (acc.any p || (s.pullExtend pp b []).any p) := by
  rw [← List.any_append, Bool.eq_iff_iff]
  simp only [List.any_eq_true, List.mem_append, mem_pullExtend s pp b acc]

def stepList (s : GameState) (pp : PlayPhase) : List Action :=
  s.pullExtend pp s.board (s.pushActions pp s.board) ++ s.ownMoves s.board

theorem isMove_of_mem_stepList (s : GameState) (pp : PlayPhase) (a : Action)
    (h : a ∈ s.stepList pp) : a.isMove = true := by
  unfold stepList at h
  rw [List.mem_append, mem_pullExtend] at h
  rcases h with (h | h) | h
  · exact isMove_of_mem_pushActions _ _ _ _ h
  · exact isMove_of_mem_pullExtend_nil _ _ _ _ h
  · exact isMove_of_mem_ownMoves _ _ _ h

theorem eq_place_of_mem_validPlacement (s : GameState) (a : Action)
    (h : a ∈ s.validPlacement) : ∃ p, a = .place p := by
  unfold validPlacement at h
  simp only [List.mem_filterMap] at h
  obtain ⟨⟨f, lim, p⟩, _, h⟩ := h
  simp only at h
  split at h
  · injection h with h; exact ⟨p, h.symm⟩
  · cases h

theorem histContainsTwice_iff (hist : List BB) (x : BB) :
    histContainsTwice hist x = true ↔ 2 ≤ hist.count x := by
  unfold histContainsTwice
  rw [List.count_eq_length_filter]
  simp

theorem canPass_play (s : GameState) (pp : PlayPhase) (hph : s.phase = .play pp) (r : Bool) :
    s.canPass r = (decide (pp.step ≥ 1) && !pp.pps.isMustCompletePush &&
      (!r || ((pp.initHash != zExcludeStep s.hash pp.step) &&
        !histContainsTwice pp.hist (zPass s.hash pp.step)))) := by
  simp [canPass, hph]

theorem canPass_false_of_isMustCompletePush (s : GameState) (pp : PlayPhase) (hph : s.phase = .play pp)
    (hm : pp.pps.isMustCompletePush = true) (r : Bool) : s.canPass r = false := by
  rw [canPass_play s pp hph, hm]; simp

theorem canPass_noRep_of_canPass_rep (s : GameState) (h : s.canPass true = true) :
    s.canPass false = true := by
  unfold canPass at *
  split at h
  · simp only [Bool.and_eq_true] at h
    simp [h.1.1, h.1.2]
  · cases h

def repFilterOn (pp : PlayPhase) : Bool := pp.step == 3 && !pp.trapped

/-- The predicate of `removePassingLikeActions`.  `withheld` below is the one the statements of C06 use; it also
covers the pass, and on steps it is the negation. -/
def kept (s : GameState) (pp : PlayPhase) (a : Action) : Bool :=
  !(repFilterOn pp && s.isPassingLikeAction pp a)

theorem removePassingLikeActions_eq_filter (s : GameState) (pp : PlayPhase) (l : List Action) :
    s.removePassingLikeActions pp l = l.filter (s.kept pp) := by
  unfold removePassingLikeActions kept repFilterOn
  cases h : (pp.step == 3 && !pp.trapped)
  · simp
    exact (List.filter_eq_self.2 (fun _ _ => rfl)).symm
  · simp

/-- needs `step ≤ 3`: for `step ≥ 4` the code's two conditions (`step == 3` in the filter,
`step < 3` in its mirror) are not complementary. -/
theorem hasNonPassingLikeAction_eq_any (s : GameState) (pp : PlayPhase) (l : List Action)
    (h3 : pp.step ≤ 3) :
    s.hasNonPassingLikeAction pp l = l.any (s.kept pp) := by
  unfold hasNonPassingLikeAction kept repFilterOn
  cases l with
  | nil => simp
  | cons a l =>
    simp only [List.isEmpty_cons, Bool.false_eq_true, if_false]
    by_cases hlt : pp.step < 3
    · have : (pp.step == 3) = false := by simp; omega
      simp [hlt, this]
    · have h3' : pp.step = 3 := by omega
      cases ht : pp.trapped
      · simp [h3']
      · simp [h3']

theorem kept_pass (s : GameState) (pp : PlayPhase) : s.kept pp .pass = true := by
  simp [kept, isPassingLikeAction]

theorem isMove_of_not_kept (s : GameState) (pp : PlayPhase) (a : Action)
    (h : s.kept pp a = false) : repFilterOn pp = true ∧ a.isMove = true := by
  cases a <;> simp_all [kept, isPassingLikeAction, Action.isMove]

def moveList (s : GameState) (pp : PlayPhase) : List Action :=
  if pp.pps.isMustCompletePush then s.mustCompletePushActions pp s.board else s.stepList pp

theorem isMove_of_mem_moveList (s : GameState) (pp : PlayPhase) (a : Action) (h : a ∈ s.moveList pp) :
    a.isMove = true := by
  unfold moveList at h
  split at h
  · exact isMove_of_mem_mustCompletePushActions s pp _ a h
  · exact isMove_of_mem_stepList s pp a h

def passList (s : GameState) (r : Bool) : List Action := if s.canPass r then [.pass] else []

theorem mem_passList (s : GameState) (r : Bool) (a : Action) :
    a ∈ s.passList r ↔ a = .pass ∧ s.canPass r = true := by
  unfold passList
  cases s.canPass r <;> simp

/-- One shape for both branches of `valid_actions_`: while a push is pending `can_pass` is false, so
the branch that does not ask it lists "the steps, then the pass if `can_pass`" as well. -/
theorem validActions__play (s : GameState) (pp : PlayPhase) (hph : s.phase = .play pp) (r : Bool) :
    s.validActions_ r = (s.moveList pp ++ s.passList r).filter fun a => !r || s.kept pp a := by
  have hf : ∀ l : List Action, (if r then s.removePassingLikeActions pp l else l) =
      l.filter fun a => !r || s.kept pp a := by
    intro l
    cases r
    · exact (List.filter_eq_self.2 fun _ _ => rfl).symm
    · exact removePassingLikeActions_eq_filter s pp l
  rw [← hf]
  unfold moveList passList
  cases hm : pp.pps.isMustCompletePush
  · simp only [validActions_, hph, hm, stepList]
    cases s.canPass r <;> simp
  · rw [canPass_false_of_isMustCompletePush s pp hph hm]
    simp [validActions_, hph, hm]

theorem validActionsNoRep_play (s : GameState) (pp : PlayPhase) (hph : s.phase = .play pp) :
    s.validActionsNoRep = s.moveList pp ++ s.passList false := by
  unfold validActionsNoRep
  rw [validActions__play s pp hph]
  exact List.filter_eq_self.2 fun _ _ => rfl

theorem mem_validActions__play (s : GameState) (pp : PlayPhase) (hph : s.phase = .play pp) (r : Bool)
    (a : Action) :
    a ∈ s.validActions_ r ↔
      (a ∈ s.moveList pp ∧ (r = true → s.kept pp a = true)) ∨ (a = .pass ∧ s.canPass r = true) := by
  rw [validActions__play s pp hph, List.mem_filter, List.mem_append, mem_passList, or_and_right]
  refine or_congr (and_congr_right fun _ => by cases r <;> simp) ?_
  constructor
  · exact fun h => h.1
  · rintro ⟨rfl, h⟩
    exact ⟨⟨rfl, h⟩, by rw [kept_pass, Bool.or_true]⟩

theorem validActions__place (s : GameState) (hph : s.phase = .place) (r : Bool) :
    s.validActions_ r = s.validPlacement := by
  simp [validActions_, hph]

/-- The action is withheld by the repetition rules: it is the pass and passing is allowed by the rules but not by
the repetition check, or it is the fourth step of a turn without capture and its result is "passing-like"
(restores the turn-start position or makes a third occurrence). -/
def withheld (s : GameState) (pp : PlayPhase) (a : Action) : Bool :=
  (a == .pass && s.canPass false && !s.canPass true) ||
    (pp.step == 3 && !pp.trapped && s.isPassingLikeAction pp a)

theorem withheld_of_isMove (s : GameState) (pp : PlayPhase) (a : Action) (h : a.isMove = true) :
    (!s.withheld pp a) = s.kept pp a := by
  cases a <;> simp_all [withheld, kept, repFilterOn, Action.isMove]

theorem withheld_pass (s : GameState) (pp : PlayPhase) :
    s.withheld pp .pass = (s.canPass false && !s.canPass true) := by
  simp [withheld, isPassingLikeAction]

theorem validActions_filter_shape (s : GameState) (pp : PlayPhase) (hph : s.phase = .play pp) :
    s.validActions = s.validActionsNoRep.filter (fun a => !s.withheld pp a) := by
  rw [validActionsNoRep_play s pp hph, validActions, validActions__play s pp hph, List.filter_append,
    List.filter_append]
  congr 1
  · exact List.filter_congr fun a ha => by
      rw [withheld_of_isMove s pp a (isMove_of_mem_moveList s pp a ha)]; rfl
  · unfold passList
    cases hT : s.canPass true
    · cases hF : s.canPass false
      · rfl
      · simp [withheld_pass, hT, hF]
    · simp [withheld_pass, hT, canPass_noRep_of_canPass_rep s hT, kept_pass]

theorem mem_validActions_iff (s : GameState) (pp : PlayPhase) (hph : s.phase = .play pp) (a : Action) :
    a ∈ s.validActions ↔ a ∈ s.validActionsNoRep ∧ s.withheld pp a = false := by
  rw [validActions_filter_shape s pp hph, List.mem_filter, Bool.not_eq_true']

theorem pass_mem_validActions__iff (s : GameState) (r : Bool) :
    Action.pass ∈ s.validActions_ r ↔ s.canPass r = true := by
  cases hph : s.phase with
  | place =>
    rw [validActions__place s hph, show s.canPass r = false by simp [canPass, hph]]
    constructor
    · intro h
      obtain ⟨p, hp⟩ := eq_place_of_mem_validPlacement s _ h
      cases hp
    · nofun
  | play pp =>
    rw [mem_validActions__play s pp hph]
    exact ⟨fun h => h.elim (fun h => nomatch isMove_of_mem_moveList s pp _ h.1) (·.2), fun h => Or.inr ⟨rfl, h⟩⟩

theorem step_or_pass_of_mem (s : GameState) (pp : PlayPhase) (hph : s.phase = .play pp) (r : Bool) (a : Action)
    (ha : a ∈ s.validActions_ r) : a = .pass ∨ ∃ i d, a = .move i d := by
  rcases (mem_validActions__play s pp hph r a).mp ha with h | h
  · exact Or.inr ((Action.isMove_iff a).mp (isMove_of_mem_moveList s pp a h.1))
  · exact Or.inl h.1

theorem move_mem_noRep_iff (s : GameState) (pp : PlayPhase) (hph : s.phase = .play pp) (i : Nat) (d : Dir) :
    Action.move i d ∈ s.validActionsNoRep ↔ Action.move i d ∈ s.moveList pp := by
  unfold validActionsNoRep
  rw [mem_validActions__play s pp hph]
  exact ⟨fun h => h.elim (·.1) (fun h => nomatch h.1), fun h => Or.inl ⟨h, nofun⟩⟩

theorem hasMove_eq_none_iff (s : GameState) (pp : PlayPhase) (hph : s.phase = .play pp)
    (b : Board) :
    s.hasMove b = none ↔
      (if pp.pps.isMustCompletePush then
        s.hasNonPassingLikeAction pp (s.mustCompletePushActions pp b)
      else (s.canPass true || s.hasNonPassingLikeAction pp (s.ownMoves b) ||
        s.hasNonPassingLikeAction pp (s.pullExtend pp b []) ||
        s.hasNonPassingLikeAction pp (s.pushActions pp b))) = true := by
  unfold hasMove
  rw [ite_none_some_eq_none]
  simp only [hph, Bool.if_true_left, Bool.if_false_right, Bool.decide_eq_true, Bool.or_assoc, Bool.and_true]

theorem hasMove_eq_some (s : GameState) (b : Board) (h : s.hasMove b ≠ none) :
    s.hasMove b = some (if s.p1Turn then .silverWin else .goldWin) :=
  ite_none_some_of_ne_none _ _ _ _ h

theorem validActions_ne_nil_iff (s : GameState) (pp : PlayPhase) (hph : s.phase = .play pp)
    (h3 : pp.step ≤ 3) :
    s.validActions ≠ [] ↔ s.hasMove s.board = none := by
  have hp : (s.passList true).any (s.kept pp) = s.canPass true := by
    unfold passList; cases s.canPass true <;> simp [kept_pass]
  rw [hasMove_eq_none_iff s pp hph, validActions, validActions__play s pp hph]
  simp only [Bool.not_true, Bool.false_or]
  rw [filter_ne_nil_iff_any, List.any_append, hp]
  unfold moveList
  cases hm : pp.pps.isMustCompletePush
  · simp only [Bool.false_eq_true, if_false, hasNonPassingLikeAction_eq_any s pp _ h3, stepList, List.any_append]
    rw [any_pullExtend]
    -- the list is scanned in the order push, pull, own, pass; `has_move` asks in the reverse order
    generalize s.canPass true = a; generalize List.any _ _ = b; generalize List.any _ _ = c
    generalize List.any _ _ = d
    rw [show (b || c || d || a) = (a || d || c || b) by ac_rfl]
  · rw [canPass_false_of_isMustCompletePush s pp hph hm, Bool.or_false, if_pos rfl, if_pos rfl,
      hasNonPassingLikeAction_eq_any s pp _ h3]

theorem hasMove_none_of_isTerminal_none (s : GameState) (pp : PlayPhase)
    (hph : s.phase = .play pp) (h : s.isTerminal = none) : s.hasMove s.board = none := by
  unfold isTerminal at h
  simp only [hph] at h
  split at h
  · exact h
  · cases h1 : s.rabbitAtGoal s.board with
    | some t => simp [h1, Option.orElse] at h
    | none =>
      cases h2 : s.lostAllRabbits s.board with
      | some t => simp [h1, h2, Option.orElse] at h
      | none => simpa [h1, h2, Option.orElse] using h

theorem isTerminal_mid_turn (s : GameState) (pp : PlayPhase) (hph : s.phase = .play pp)
    (hpos : pp.step > 0) : s.isTerminal = s.hasMove s.board := by
  simp [isTerminal, hph, hpos]

theorem isTerminal_mid_turn_eq (s : GameState) (pp : PlayPhase) (hph : s.phase = .play pp)
    (hpos : pp.step > 0) (h3 : pp.step ≤ 3) :
    s.isTerminal =
      if s.validActions = [] then some (if s.p1Turn then .silverWin else .goldWin) else none := by
  rw [isTerminal_mid_turn s pp hph hpos]
  have h := validActions_ne_nil_iff s pp hph h3
  split
  · next he => exact hasMove_eq_some s _ fun e => h.2 e he
  · next hne => exact h.1 hne

end GameState

open GameState in
theorem validActions_sublist (s : GameState) : List.Sublist s.validActions s.validActionsNoRep := by
  cases hph : s.phase with
  | place =>
    unfold validActions validActionsNoRep
    rw [validActions__place s hph, validActions__place s hph]
    exact List.Sublist.refl _
  | play pp =>
    rw [validActions_filter_shape s pp hph]
    exact List.filter_sublist

theorem mem_noRep_of_mem_validActions (s : GameState) (a : Action) (h : a ∈ s.validActions) :
    a ∈ s.validActionsNoRep :=
  (validActions_sublist s).subset h

theorem validActions_eq_validPlacement (s : GameState) (h : s.phase = .place) :
    s.validActions = s.validPlacement :=
  GameState.validActions__place s h true

open GameState in
theorem canPass_step0 (s : GameState) (pp : PlayPhase) (hph : s.phase = .play pp)
    (h0 : pp.step = 0) (r : Bool) : s.canPass r = false := by
  rw [canPass_play s pp hph, h0]; simp

open GameState in
theorem validActions_eq_noRep_step0 (s : GameState) (pp : PlayPhase) (hph : s.phase = .play pp)
    (h0 : pp.step = 0) : s.validActions = s.validActionsNoRep := by
  rw [validActions_filter_shape s pp hph]
  apply List.filter_eq_self.2
  intro a _
  simp [withheld, canPass_step0 s pp hph h0, h0]

theorem validActions_play_notPlace (s : GameState) (pp : PlayPhase) (h : s.phase = .play pp)
    (chk : Bool) (p : Piece) : Action.place p ∉ s.validActions_ chk := fun ha => by
  rcases GameState.step_or_pass_of_mem s pp h chk _ ha with e | ⟨_, _, e⟩ <;> cases e

end Arimaa
