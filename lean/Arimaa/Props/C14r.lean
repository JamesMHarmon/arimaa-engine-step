import Arimaa.Props.C14
import Arimaa.Lemmas.PanicSites
import Arimaa.Lemmas.RsAgreePrevBoards
import Arimaa.Lemmas.RsAgreeStep

/-!
C14 for the regenerated code (`Gen/Rs.lean`, written from the Rust text on every run).  `C14_code_agrees` lists, as one
obligation, the agreements with the hand model of the functions C14 speaks of, so that a change of the Rust text that
alters behaviour breaks an obligation here without a test having to find the input; a corollary whose hypothesis names
a list the code returned also cites `Code.rule_only` / `Code.offered`.  (written by tools/mkrprops.py)
-/
namespace Arimaa
open GameState Arimaa.Gen.Rs Arimaa.Rt Arimaa.Gen.Bridge

/-- the agreement theorems C14 rests on, about the CURRENT functions, as one obligation -/
theorem C14_code_agrees :
    (∀ (s : GameState) (i : Nat), GameState_piece_board_for_step s i = Res.guard (s.pieceBoardForStepPanics i) (s.pieceBoardForStep i)) ∧
    (∀ (s : GameState) (a : Action), GameState_take_action s a = Res.guard (s.takeActionPanics a) (s.takeAction a)) :=
  ⟨Code.piece_board_for_step, Code.take_action⟩

theorem C14_code_board_for_step (s : GameState) (i : Nat) (r : Board)
    (h : GameState_piece_board_for_step s i = .ok r) : r = s.pieceBoardForStep i :=
  RsAgree.eq_of_guard_eq_ok (Code.piece_board_for_step s i) h

inductive CodeSteps : GameState → List (Nat × Dir) → GameState → Prop where
  | nil (s : GameState) : CodeSteps s [] s
  | cons {s s' t : GameState} {m : Nat × Dir} {ms : List (Nat × Dir)} :
      GameState_take_action s (.move m.1 m.2) = .ok s' → CodeSteps s' ms t → CodeSteps s (m :: ms) t

theorem C14_code_steps_are_model_steps {s t : GameState} {ms : List (Nat × Dir)} (h : CodeSteps s ms t) :
    t = s.runMoves ms := by
  induction h with
  | nil s => rfl
  | cons ht _ ih =>
    have h2 := Code.successor ht
    subst h2
    rw [ih]; rfl

/-- **C14 for the code as it is now**: after `k ≤ 3` steps of a turn applied by the regenerated `take_action`, the
regenerated `piece_board_for_step i` returns (never panics), for every `i ≤ k`, exactly the board as it stood
after `i` steps of this turn -/
theorem C14_code_boards_of_turn (s0 t : GameState) (pp0 : PlayPhase) (hph : s0.phase = .play pp0)
    (hstart : pp0.step = 0) (ms : List (Nat × Dir)) (hk : ms.length ≤ 3) (hg : CodeSteps s0 ms t)
    (i : Nat) (hi : i ≤ ms.length) :
    GameState_piece_board_for_step t i = .ok (s0.stateAfter ms i).board := by
  have ht := C14_code_steps_are_model_steps hg
  subst ht
  obtain ⟨ppk, hpk, hstep, _, hprev, hall⟩ := C14_boards_of_turn s0 pp0 hph hstart ms hk
  rw [Code.piece_board_for_step]
  have hp := (pieceBoardForStepPanics_eq _ ppk hpk i).trans (decide_eq_false (by omega))
  rw [hp, hall i hi]; rfl

end Arimaa
