import Arimaa.Props.C12
import Arimaa.Lemmas.CodeRuleOnly
import Arimaa.Lemmas.RsAgreeStep
import Arimaa.Gen.Bridge.GameState_must_complete_push_actions
import Arimaa.Gen.Bridge.GameState_next_push_pull_state

/-!
C12 for the regenerated code (`Gen/Rs.lean`, written from the Rust text on every run).  `C12_code_agrees` lists, as one
obligation, the agreements with the hand model of the functions C12 speaks of, so that a change of the Rust text that
alters behaviour breaks an obligation here without a test having to find the input; a corollary whose hypothesis names
a list the code returned also cites `Code.rule_only` / `Code.offered`.  (written by tools/mkrprops.py)
-/
namespace Arimaa
open GameState Arimaa.Gen.Rs Arimaa.Rt Arimaa.Gen.Bridge Spec

/-- the agreement theorems C12 rests on, about the CURRENT functions, as one obligation -/
theorem C12_code_agrees :
    (∀ s : GameState, GameState_valid_actions_no_rep s = Res.guard s.validActionsNoRepPanics s.validActionsNoRep) ∧
    (∀ (s : GameState) (pp : PlayPhase), s.phase = .play pp → ∀ (sq : Nat) (d : Dir), GameState_next_push_pull_state s sq d = Res.guard (s.nextPushPullStatePanics pp sq) (s.nextPushPullState pp sq d)) ∧
    (∀ (s : GameState) (pp : PlayPhase), s.phase = .play pp → ∀ b : Board, GameState_must_complete_push_actions s b = Res.guard (mustCompletePushActionsPanics pp) (s.mustCompletePushActions pp b)) ∧
    (∀ (s : GameState) (a : Action), GameState_take_action s a = Res.guard (s.takeActionPanics a) (s.takeAction a)) :=
  ⟨Code.valid_actions_no_rep,
   bridge_GameState_next_push_pull_state ▸ RsAgree.next_push_pull_state,
   bridge_GameState_must_complete_push_actions ▸ RsAgree.must_complete_push_actions_eq,
   Code.take_action⟩

/-- **C12 for the code as it is now**: after a step from the rule-only list of the regenerated code, applied by
the regenerated `take_action` before the last step of the turn, the reported status is the one the rules
prescribe (`Spec.nextPending`) -/
theorem C12_code_status_after_step (s s' : GameState) (pp : PlayPhase) (h : PlayInv s pp) (l : List Action)
    (hl : GameState_valid_actions_no_rep s = .ok l) (i : Nat) (d : Dir) (ha : Action.move i d ∈ l)
    (hlt : pp.step < 3) (ht : GameState_take_action s (.move i d) = .ok s') :
    ∃ pp', s'.phase = .play pp' ∧
      absPend pp'.pps = nextPending (absBoard s.board) s.p1Turn (absPend pp.pps) i (dirSpec d) := by
  have h1 := Code.rule_only hl
  have h2 := Code.successor ht
  subst h1 h2
  exact C12_status_after_step s pp h i d ha hlt

end Arimaa
