import Arimaa.Props.C11
import Arimaa.Lemmas.CodeRuleOnly
import Arimaa.Lemmas.RsAgreeStep
import Arimaa.Lemmas.RsAgreeResult

/-!
C11 for the regenerated code (`Gen/Rs.lean`, written from the Rust text on every run).  `C11_code_agrees` lists, as one
obligation, the agreements with the hand model of the functions C11 speaks of, so that a change of the Rust text that
alters behaviour breaks an obligation here without a test having to find the input; a corollary whose hypothesis names
a list the code returned also cites `Code.rule_only` / `Code.offered`.  (written by tools/mkrprops.py)
-/
namespace Arimaa
open GameState Arimaa.Gen.Rs Arimaa.Rt Arimaa.Gen.Bridge Spec

/-- the agreement theorems C11 rests on, about the CURRENT functions, as one obligation -/
theorem C11_code_agrees :
    (∀ s : GameState, GameState_valid_actions_no_rep s = Res.guard s.validActionsNoRepPanics s.validActionsNoRep) ∧
    (∀ (s : GameState) (a : Action), GameState_take_action s a = Res.guard (s.takeActionPanics a) (s.takeAction a)) ∧
    (∀ s : GameState, GameState_is_terminal s = Res.guard s.isTerminalPanics s.isTerminal) :=
  ⟨Code.valid_actions_no_rep, Code.take_action, Code.is_terminal⟩

/-- **C11 for the code as it is now**: for two states that are images of each other under a file mirror and / or a
colour swap with rank flip, the rule-only lists the regenerated code returns correspond action by action, and at
the start of a turn the results it returns are the swapped results -/
theorem C11_code_offered_and_result (σ : Sym) (s s' : GameState) (pp pp' : PlayPhase)
    (h : PlayInv s pp) (h' : PlayInv s' pp') (hr : SymRel σ s pp s' pp') (l l' : List Action)
    (hl : GameState_valid_actions_no_rep s = .ok l) (hl' : GameState_valid_actions_no_rep s' = .ok l') :
    (∀ a, σ.iact a ∈ l' ↔ a ∈ l) ∧
    (pp.step = 0 → pp.pps = .none → ∀ r r', GameState_is_terminal s = .ok r → GameState_is_terminal s' = .ok r' →
      r' = r.map σ.ires) := by
  have h1 := Code.rule_only hl
  have h2 := Code.rule_only hl'
  subst h1 h2
  refine ⟨fun a => (C11_impl_offered_all σ s s' pp pp' h h' hr a).1, ?_⟩
  intro h0 hpps r r' hrr hrr'
  rw [Code.result hrr, Code.result hrr']
  exact C11_impl_result σ s s' pp pp' h h' hr h0 hpps

end Arimaa
