import Arimaa.Gen.BridgeTac
import Arimaa.Gen.BridgeFacts
import Lean

/-!
`rs_bridge_eval`: symbolic evaluation of both sides of a bridge by case analysis on the OUTCOME of every fallible
call (`Res.ok a` / `Res.panic`), first call first.  Two texts that run the same calls in another order, run one of
them twice, or feed the results into differently shaped pure code become two pure expressions over the same
outcome variables, which the closing tactics compare (case analysis on `match` / `bif`, Boolean and bitboard
algebra up to associativity and commutativity).  Hand-written; proves nothing by itself.
-/
namespace Arimaa.Gen.Bridge
open Lean Elab Tactic Meta

/-- does the type `ty` of a constant, after `n` arguments, end in `Res _`? -/
private def resultIsRes : Expr → Nat → Bool
  | .forallE _ _ b _, n+1 => resultIsRes b n
  | ty, 0 => ty.getAppFn.isConstOf ``Arimaa.Rt.Res
  | _, _ => false

private def isResCall (env : Environment) (e : Expr) : Bool :=
  e.isApp && !e.hasLooseBVars &&
  match e.getAppFn with
  | .const n _ =>
    n != ``Arimaa.Rt.Res.ok && n != ``Arimaa.Rt.Res.panic && n != ``Arimaa.Rt.Res.bind &&
    (match env.find? n with
     | some ci => resultIsRes ci.type e.getAppNumArgs
     | none => false)
  | _ => false

private partial def findCall (env : Environment) (e : Expr) : Option Expr :=
  if isResCall env e then some e else
  match e with
  | .app f a => (findCall env f).orElse fun _ => findCall env a
  | .lam _ t b _ => (findCall env t).orElse fun _ => findCall env b
  | .forallE _ t b _ => (findCall env t).orElse fun _ => findCall env b
  | .letE _ t v b _ => ((findCall env t).orElse fun _ => findCall env v).orElse fun _ => findCall env b
  | .mdata _ b => findCall env b
  | .proj _ _ b => findCall env b
  | _ => none

/-- picks the first closed call of a function with result type `Res _` in the goal, and case-splits on its outcome -/
elab "rs_cases_call" : tactic => withMainContext do
  let g ← getMainGoal
  let tgt ← instantiateMVars (← g.getType)
  match findCall (← getEnv) tgt with
  | none => throwError "rs_cases_call: no fallible call left"
  | some e =>
    let stx ← Term.exprToSyntax e
    evalTactic (← `(tactic| (generalize $stx = xcall; cases xcall)))

/-- one rung of the ladder in a generated bridge: runs `t` with a heartbeat budget of its own (100000; the
`maxHeartbeats` of the generated theorem bounds all rungs together, `Gen/BridgeLadder.lean`) and turns a
deterministic timeout (which `first` does not catch) into an ordinary failure, so that the next rung is tried -/
elab "rs_rung " t:tactic : tactic => do
  let s ← saveState
  tryCatchRuntimeEx
    (withTheReader Core.Context (fun c => { c with maxHeartbeats := 100000 * 1000 }) (withCurrHeartbeats (evalTactic t)))
    (fun ex => do
      if ex.isRuntime then
        s.restore
        throwError "rung gave up: {ex.toMessageData}"
      else
        throw ex)

macro "rs_bridge_eval" : tactic => `(tactic| (
  repeat' (first | rfl | (rs_cases_call <;> try simp only [Arimaa.Rt.Res.bind_ok, Arimaa.Rt.Res.bind_panic]) | (split <;> try simp only [*, Arimaa.Rt.Res.bind_ok, Arimaa.Rt.Res.bind_panic] at *))
  all_goals first
    | rfl
    | rs_bridge_cases
    | ((repeat' (split <;> try simp only [])) <;>
        (simp_all [BitVec.xor_assoc, BitVec.xor_comm, bv_xor_left_comm, BitVec.and_assoc, BitVec.and_comm,
          bv_and_left_comm, BitVec.or_assoc, BitVec.or_comm, bv_or_left_comm]; done))))

end Arimaa.Gen.Bridge
