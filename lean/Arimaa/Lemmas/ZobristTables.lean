import Arimaa.Lemmas.NodupCheck
import Arimaa.Lemmas.Xor

/-!
The table obligations T1–T5 of C17 (`Props/C17.lean`) and their use forms.  Duplicate-freeness of the GENERATED tables
(`Gen/Zobrist.lean`) is checked by kernel evaluation, so a changed table re-runs the check; the use forms follow because
the model's lookups read one fixed entry of the table, through the generated index maps (`Gen/Enums.lean`).
-/
namespace Arimaa
open Gen

theorem playerToMove_ne_zero : Z_PLAYER_TO_MOVE ≠ 0 := by decide

theorem stepValues_length : Z_STEP_VALUES.length = 4 := by decide

theorem stepValues_nodup : Z_STEP_VALUES.Nodup := nodup_of_distinctN _ (by decide +kernel)

theorem stepValueAt_ne (i j : Nat) (hi : i < 4) (hj : j < 4) (hne : i ≠ j) :
    stepValueAt i ≠ stepValueAt j :=
  fun e => hne ((List.getD_inj (stepValues_length ▸ hi) (stepValues_length ▸ hj) stepValues_nodup).mp e)

/-- stronger than T3 and T4 together, and one sweep instead of a sweep per row and per column -/
theorem squareValues_nodup : (0 :: Z_SQUARE_VALUES.flatten).Nodup :=
  nodup_of_distinctN _ (by decide +kernel)

theorem squareValues_length : Z_SQUARE_VALUES.length = 12 := by decide +kernel

theorem squareValues_row_length : ∀ row ∈ Z_SQUARE_VALUES, row.length = 64 := by decide +kernel

theorem squareValues_rows_nodup (row : List BB) (h : row ∈ Z_SQUARE_VALUES) :
    row.length = 64 ∧ row.Nodup :=
  ⟨squareValues_row_length row h, nodup_row (List.nodup_cons.mp squareValues_nodup).2 row h⟩

theorem squareValues_columns_nodup (sq : Nat) (hsq : sq < 64) :
    (0 :: Z_SQUARE_VALUES.map (fun row => row.getD sq 0)).Nodup :=
  nodup_column squareValues_nodup sq 0 (fun row h => (squareValues_row_length row h).symm ▸ hsq)

/-- the row of `SQUARE_VALUES` that `piece_value` reads for an (owner, piece) -/
def planeRow (op : Bool × Piece) : Nat :=
  (pieceValueIdx op.2).getD 0 + if op.1 then pieceValueP1Offset else pieceValueP2Offset

theorem pieceValue_eq (sq : Nat) (p : Piece) (o : Bool) :
    pieceValue sq p o = (Z_SQUARE_VALUES.getD (planeRow (o, p)) []).getD sq 0 := by
  cases p <;> rfl

theorem planeRow_lt (op : Bool × Piece) : planeRow op < Z_SQUARE_VALUES.length :=
  List.forall_mem_map.mp (by decide : ∀ r ∈ planes.map planeRow, r < Z_SQUARE_VALUES.length) op
    (mem_planes op)

theorem planeRow_ne (op op' : Bool × Piece) (h : op ≠ op') : planeRow op ≠ planeRow op' :=
  nodup_map_ne planeRow planes (by decide) op (mem_planes op) op' (mem_planes op') h

theorem pieceValue_sq_ne (o : Bool) (p : Piece) (i j : Nat) (hi : i < 64) (hj : j < 64)
    (hne : i ≠ j) : pieceValue i p o ≠ pieceValue j p o := by
  obtain ⟨hl, hn⟩ := squareValues_rows_nodup _ (getD_mem _ _ [] (planeRow_lt (o, p)))
  rw [pieceValue_eq, pieceValue_eq]
  exact fun e => hne ((List.getD_inj (hl.symm ▸ hi) (hl.symm ▸ hj) hn).mp e)

/-- where the value of a content stands in `0 ::` column `sq` of `SQUARE_VALUES` -/
def contentIdx : Option (Bool × Piece) → Nat
  | none => 0
  | some op => planeRow op + 1

theorem contentValue_eq (sq : Nat) (c : Option (Bool × Piece)) :
    contentValue sq c =
      (0 :: Z_SQUARE_VALUES.map (fun row => row.getD sq 0)).getD (contentIdx c) 0 := by
  cases c with
  | none => rfl
  | some op =>
    rw [contentValue, pieceValue_eq, contentIdx, List.getD_cons_succ]
    exact (getD_map (fun row => row.getD sq 0) Z_SQUARE_VALUES _ []).symm

theorem contentIdx_ne (c c' : Option (Bool × Piece)) (h : c ≠ c') : contentIdx c ≠ contentIdx c' := by
  cases c <;> cases c'
  · exact absurd rfl h
  · exact (Nat.succ_ne_zero _).symm
  · exact Nat.succ_ne_zero _
  · exact fun e => planeRow_ne _ _ (fun e' => h (congrArg some e')) (Nat.succ.inj e)

theorem contentIdx_lt (sq : Nat) (c : Option (Bool × Piece)) :
    contentIdx c < (0 :: Z_SQUARE_VALUES.map (fun row => row.getD sq 0)).length := by
  rw [List.length_cons, List.length_map]
  cases c with
  | none => exact Nat.succ_pos _
  | some op => exact Nat.succ_lt_succ (planeRow_lt op)

theorem contentValue_ne (sq : Nat) (hsq : sq < 64) (c c' : Option (Bool × Piece)) (hne : c ≠ c') :
    contentValue sq c ≠ contentValue sq c' := by
  rw [contentValue_eq, contentValue_eq]
  exact fun e => contentIdx_ne c c' hne
    ((List.getD_inj (contentIdx_lt sq c) (contentIdx_lt sq c') (squareValues_columns_nodup sq hsq)).mp e)

def pushPullValues : List BB := 0 :: (Z_PUSH_VALUES.flatten ++ Z_POSSIBLE_PULL_VALUES.flatten)

theorem pushPullValues_nodup : pushPullValues.Nodup := nodup_of_distinctN _ (by decide +kernel)

theorem pushPullValues_length : pushPullValues.length = 641 := by decide +kernel

/-- a status the engine can produce -/
def PPS.Valid : PPS → Prop
  | .none => True
  | .mustCompletePush sq p => sq < 64 ∧ p ≠ Piece.elephant
  | .possiblePull sq p => sq < 64 ∧ p ≠ Piece.rabbit

/-- the 641 valid statuses, in the order of `pushPullValues` -/
def allStatuses : List PPS :=
  PPS.none ::
    (([Piece.camel, .horse, .dog, .cat, .rabbit].flatMap fun p =>
        (List.range 64).map (PPS.mustCompletePush · p)) ++
      ([Piece.elephant, .camel, .horse, .dog, .cat].flatMap fun p =>
        (List.range 64).map (PPS.possiblePull · p)))

theorem mem_allStatuses (pps : PPS) (h : pps.Valid) : pps ∈ allStatuses := by
  cases pps with
  | none => exact List.mem_cons_self
  | mustCompletePush sq p =>
    obtain ⟨hsq, hp⟩ := h
    refine List.mem_cons_of_mem _ (List.mem_append_left _ (List.mem_flatMap.mpr ⟨p, ?_,
      List.mem_map.mpr ⟨sq, List.mem_range.mpr hsq, rfl⟩⟩))
    cases p <;> simp at hp ⊢
  | possiblePull sq p =>
    obtain ⟨hsq, hp⟩ := h
    refine List.mem_cons_of_mem _ (List.mem_append_right _ (List.mem_flatMap.mpr ⟨p, ?_,
      List.mem_map.mpr ⟨sq, List.mem_range.mpr hsq, rfl⟩⟩))
    cases p <;> simp at hp ⊢

theorem flatMap_tbl2 (n : Nat) : ∀ (t : List (List BB)), (∀ row ∈ t, row.length = n) →
    (List.range t.length).flatMap (fun i => (List.range n).map (tbl2 t i)) = t.flatten
  | [], _ => rfl
  | row :: t, h => by
    rw [List.length_cons, List.range_succ_eq_map, List.flatMap_cons, List.flatMap_map,
      List.flatten_cons, ← flatMap_tbl2 n t (fun r hr => h r (List.mem_cons_of_mem _ hr)),
      ← h row List.mem_cons_self]
    exact congrArg (· ++ _) (map_range_getD row 0)

theorem flatMap_rows {α : Type} (n : Nat) (t : List (List BB)) (h : ∀ r ∈ t, r.length = n)
    (ps : List α) (row : α → Nat) (hrow : ps.map row = List.range t.length) (f : α → Nat → BB)
    (hf : ∀ a ∈ ps, f a = tbl2 t (row a)) :
    ps.flatMap (fun a => (List.range n).map (f a)) = t.flatten := by
  rw [← flatMap_tbl2 n t h, ← hrow, List.flatMap_map]
  exact congrArg List.flatten (List.map_congr_left fun a ha => by rw [hf a ha])

/-- the model's lookups (`push_piece_value`, `pull_piece_value`: which table, which row, which
column) enumerate exactly the raw list of T5: the pieces of `allStatuses` select the rows of the two
tables in order (generated index maps), and the squares `0..63` are the columns -/
theorem allStatuses_values : allStatuses.map ppsValue = pushPullValues := by
  have hpush := flatMap_rows 64 Z_PUSH_VALUES (by decide +kernel)
    [Piece.camel, .horse, .dog, .cat, .rabbit] (fun p => (pushValueIdx p).getD 0) (by decide)
    (fun p sq => ppsValue (.mustCompletePush sq p)) (fun p hp => by cases p <;> simp at hp <;> rfl)
  have hpull := flatMap_rows 64 Z_POSSIBLE_PULL_VALUES (by decide +kernel)
    [Piece.elephant, .camel, .horse, .dog, .cat] (fun p => (pullValueIdx p).getD 0) (by decide)
    (fun p sq => ppsValue (.possiblePull sq p)) (fun p hp => by cases p <;> simp at hp <;> rfl)
  rw [allStatuses, pushPullValues, ← hpush, ← hpull, List.map_cons, List.map_append,
    List.map_flatMap, List.map_flatMap]
  simp only [List.map_map]
  rfl

theorem ppsValue_ne (a b : PPS) (ha : a.Valid) (hb : b.Valid) (hne : a ≠ b) :
    ppsValue a ≠ ppsValue b :=
  nodup_map_ne ppsValue allStatuses (by rw [allStatuses_values]; exact pushPullValues_nodup)
    a (mem_allStatuses a ha) b (mem_allStatuses b hb) hne

end Arimaa
