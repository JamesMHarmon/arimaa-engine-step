import Arimaa.Props.C17
import Arimaa.Lemmas.RsAgreeTHash
import Arimaa.Lemmas.CodeHash
import Arimaa.Gen.Bridge.Zobrist_board_state_hash_with_push_pull_state

/-!
C17 for the regenerated code (`Gen/Rs.lean`, written from the Rust text on every run).  `C17_code_agrees` lists, as one
obligation, the agreements with the hand model of the functions C17 speaks of, so that a change of the Rust text that
alters behaviour breaks an obligation here without a test having to find the input; a corollary whose hypothesis names
a list the code returned also cites `Code.rule_only` / `Code.offered`.  (written by tools/mkrprops.py)
-/
namespace Arimaa
open GameState Arimaa.Gen.Rs Arimaa.Rt Arimaa.Gen.Bridge

/-- the agreement theorems C17 rests on, about the CURRENT functions, as one obligation -/
theorem C17_code_agrees :
    (∀ s : GameState, GameState_transposition_hash s = Res.guard s.transpositionHashPanics s.transpositionHash) ∧
    (∀ (h : BB) (p : PPS), Zobrist_board_state_hash_with_push_pull_state h p = Res.guard (zWithPPSPanics p) (zWithPPS h p)) ∧
    (∀ (b : Board) (p1 : Bool) (step : Nat), Zobrist_from_piece_board b p1 step = Res.guard (zFromPieceBoardPanics b step) (zFromPieceBoard b p1 step)) :=
  ⟨Code.transposition_hash,
   bridge_Zobrist_board_state_hash_with_push_pull_state ▸ RsAgree.zobrist_with_pps,
   Code.from_piece_board⟩

/-- **C17 for the code as it is now** (content of one square): two play states that differ in the content of
exactly one square get different values from the regenerated `transposition_hash` -/
theorem C17_code_content (b b' : Board) (hb : b.AtMostOne) (hb' : b'.AtMostOne) (q : Nat) (hq : q < 64)
    (hsame : ∀ i, i < 64 → i ≠ q → b.contentAt i = b'.contentAt i)
    (hdiff : b.contentAt q ≠ b'.contentAt q) (side : Bool) (n : Nat) (pp : PlayPhase) (x x' : BB)
    (hx : GameState_transposition_hash (mkPlay b side n pp) = .ok x)
    (hx' : GameState_transposition_hash (mkPlay b' side n pp) = .ok x') : x ≠ x' := by
  rw [RsAgree.eq_of_guard_eq_ok (Code.transposition_hash _) hx,
    RsAgree.eq_of_guard_eq_ok (Code.transposition_hash _) hx']
  exact C17_content b b' hb hb' q hq hsame hdiff side n pp

end Arimaa
