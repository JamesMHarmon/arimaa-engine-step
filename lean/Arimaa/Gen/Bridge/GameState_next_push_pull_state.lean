-- GENERATED by /verif/tools/gen.py -- do not edit.  Bridge from the current text of `GameState::next_push_pull_state` to the baseline text.
import Arimaa.Gen.Rs
import Arimaa.Gen.RsBase
import Arimaa.Gen.BridgeLadder
import Arimaa.Gen.Bridge.GameState_is_their_piece
import Arimaa.Gen.Bridge.GameState_move_can_be_counted_as_pull
import Arimaa.Gen.Bridge.GameState_piece_board
import Arimaa.Gen.Bridge.GameState_unwrap_play_phase
import Arimaa.Gen.Bridge.PushPullState_is_must_complete_push
import Arimaa.Gen.Bridge.piece_type_at_bit

namespace Arimaa.Gen.Bridge
open Arimaa Arimaa.Gen Arimaa.Rt

set_option maxHeartbeats 1000000 in
theorem bridge_GameState_next_push_pull_state : @Rs.GameState_next_push_pull_state = @RsBase.GameState_next_push_pull_state := by
  funext a0 a1 a2
  rs_ladder [Rs.GameState_next_push_pull_state, RsBase.GameState_next_push_pull_state, bridge_GameState_is_their_piece, bridge_GameState_move_can_be_counted_as_pull, bridge_GameState_piece_board, bridge_GameState_unwrap_play_phase, bridge_PushPullState_is_must_complete_push, bridge_piece_type_at_bit] [RsBase.GameState_is_their_piece, RsBase.GameState_move_can_be_counted_as_pull, RsBase.GameState_piece_board, RsBase.GameState_unwrap_play_phase, RsBase.PushPullState_is_must_complete_push, RsBase.piece_type_at_bit] (cases a2) [Rs.GameState_next_push_pull_state, RsBase.GameState_next_push_pull_state, Rs.GameState_as_play_phase, Rs.GameState_is_their_piece, Rs.GameState_move_can_be_counted_as_pull, Rs.GameState_piece_board, Rs.GameState_unwrap_play_phase, Rs.PieceBoardState_player_piece_mask, Rs.PieceBoard_piece_board, Rs.PushPullState_is_must_complete_push, Rs.is_p1_piece, Rs.piece_type_at_bit, Rs.shift_in_direction, RsBase.GameState_as_play_phase, RsBase.GameState_is_their_piece, RsBase.GameState_move_can_be_counted_as_pull, RsBase.GameState_piece_board, RsBase.GameState_unwrap_play_phase, RsBase.PieceBoardState_player_piece_mask, RsBase.PieceBoard_piece_board, RsBase.PushPullState_is_must_complete_push, RsBase.is_p1_piece, RsBase.piece_type_at_bit, RsBase.shift_in_direction]

end Arimaa.Gen.Bridge
