import Arimaa.Gen.Rt

/-!
The agreement layer.  For engine.rs, zobrist.rs and display.rs there are three texts: `Gen/Rs.lean` is written from
the current Rust text on every run; `Gen/RsBase.lean` is the same translation of the text the proofs were written
against; `Gen/Bridge/<fn>.lean` (generated) proves `@Rs.f = @RsBase.f`.  The agreement modules of these files are about
`RsBase` only: `RsBase.f args = Res.guard (fPanics args) (f args)`, guard of `Impl/Panics.lean`, total function of
`Impl/`.  `Code.f` is the same statement about `Rs.f` (bridge ▸ agreement).  The other source files have no bridge:
`RsAgreeSquareCore`, `RsAgreeSquare`, `RsAgreeNotation` (`Gen/RsSq.lean`) and `RsAgreeList` (`Gen/RsList.lean`) are
proved about the current text directly (`Gen/RsSqBase.lean`, `Gen/RsListBase.lean` only store the text the translator
falls back to for a function that has left its subset; nothing imports them).

The calculus of `Res.guard`: once the callees in a translated body are rewritten by their agreement theorems, the
lemmas below, used left to right, move the guards outwards until the body reads `Res.guard P V`, with `P` in the shape
of the guards of `Impl/Panics.lean`: `p || q` for a sequence, `!c && q` for a site only reached when `c` fails.
-/
namespace Arimaa.RsAgree
open Arimaa.Rt

theorem if_panic_ok {α : Type} (c : Prop) [Decidable c] (w : α) :
    (if c then Res.panic else Res.ok w) = Res.guard (decide c) w := by
  by_cases h : c <;> simp [h]

theorem ite_panic_guard {α : Type} (p q : Bool) (w : α) :
    (if p = true then Res.panic else Res.guard q w) = Res.guard (p || q) w := by
  cases p <;> rfl

theorem addUsize_ok {a b : Nat} (h : a + b < 2 ^ 64) : Rt.addUsize a b = .ok (a + b) :=
  if_neg (by unfold Rt.usizeMax; omega)

theorem mulUsize_ok {a b : Nat} (h : a * b < 2 ^ 64) : Rt.mulUsize a b = .ok (a * b) :=
  if_neg (by unfold Rt.usizeMax; omega)

theorem subUsize_ok {a b : Nat} (h : b ≤ a) : Rt.subUsize a b = .ok (a - b) :=
  if_neg (by omega)

/-- under a true guard the value is irrelevant: each caller picks `d` to match the default of the hand model -/
theorem index_eq {α : Type} (l : List α) (i : Nat) (d : α) :
    Rt.index l i = Res.guard (decide (i ≥ l.length)) (l.getD i d) := by
  unfold Rt.index
  by_cases h : i < l.length
  · simp [h, List.getD, Nat.not_le.mpr h]
  · simp [h, List.getD, Nat.le_of_not_lt h]

theorem unwrap_eq {α : Type} (o : Option α) (d : α) : Rt.unwrap o = Res.guard o.isNone (o.getD d) := by
  cases o <;> rfl

theorem bind_guard_guard {α β : Type} (p : Bool) (v : α) (q : α → Bool) (g : α → β) :
    Res.bind (Res.guard p v) (fun a => Res.guard (q a) (g a)) = Res.guard (p || q v) (g v) := by
  cases p <;> rfl

theorem bind_guard_ok {α β : Type} (p : Bool) (v : α) (g : α → β) :
    Res.bind (Res.guard p v) (fun a => Res.ok (g a)) = Res.guard p (g v) := by
  cases p <;> rfl

theorem cond_guard {α : Type} (c p q : Bool) (v w : α) :
    (bif c then Res.guard p v else Res.guard q w) = Res.guard (bif c then p else q) (bif c then v else w) := by
  cases c <;> rfl

theorem cond_ok_guard {α : Type} (c q : Bool) (v w : α) :
    (bif c then Res.ok v else Res.guard q w) = Res.guard (!c && q) (bif c then v else w) := by
  cases c <;> rfl

theorem cond_guard_ok {α : Type} (c p : Bool) (v w : α) :
    (bif c then Res.guard p v else Res.ok w) = Res.guard (c && p) (bif c then v else w) := by
  cases c <;> rfl

theorem cond_ok_ok {α : Type} (c : Bool) (v w : α) :
    (bif c then Res.ok v else Res.ok w) = Res.ok (bif c then v else w) := by
  cases c <;> rfl

theorem guard_congr {α : Type} {p q : Bool} {v w : α} (hp : p = q) (hv : p = false → v = w) :
    Res.guard p v = Res.guard q w := by
  subst hp
  cases p
  · rw [hv rfl]
  · rfl

theorem ok_of_guard {α : Type} {x : Res α} {p : Bool} {v : α} (h : x = Res.guard p v) (hp : p = false) :
    x = .ok v := by
  subst hp
  exact h

theorem value_of_ok {α : Type} {x : Res α} {p : Bool} {v w : α} (h : x = Res.guard p v) (hx : x = .ok w) :
    p = false ∧ w = v := by
  rw [h, Res.guard_eq_ok] at hx
  exact ⟨hx.1, hx.2.symm⟩

theorem eq_of_guard_eq_ok {α : Type} {x : Res α} {p : Bool} {v w : α} (h : x = Res.guard p v) (hx : x = .ok w) :
    w = v :=
  (value_of_ok h hx).2

theorem blt_eq_decide (a b : Nat) : Nat.blt a b = decide (a < b) := Rt.blt_decide a b

theorem ble_eq_decide (a b : Nat) : Nat.ble a b = decide (a ≤ b) := Rt.ble_decide a b

end Arimaa.RsAgree
