import Arimaa.Props.C07
import Arimaa.Lemmas.RsAgreeOffered
import Arimaa.Lemmas.RsAgreeResult
import Arimaa.Lemmas.RsAgreeGen

/-!
C07 for the regenerated code (`Gen/Rs.lean`, written from the Rust text on every run).  `C07_code_agrees` lists, as one
obligation, the agreements with the hand model of the functions C07 speaks of, so that a change of the Rust text that
alters behaviour breaks an obligation here without a test having to find the input; a corollary whose hypothesis names
a list the code returned also cites `Code.rule_only` / `Code.offered`.  (written by tools/mkrprops.py)
-/
namespace Arimaa
open GameState Arimaa.Gen.Rs Arimaa.Rt Arimaa.Gen.Bridge

/-- the agreement theorems C07 rests on, about the CURRENT functions, as one obligation -/
theorem C07_code_agrees :
    (∀ (s : GameState) (cr : Bool), GameState_valid_actions_ s cr = Res.guard (s.validActions_Panics cr) (s.validActions_ cr)) ∧
    (∀ (s : GameState) (b : Board), GameState_has_move s b = Res.guard (s.hasMovePanics b) (s.hasMove b)) ∧
    (∀ s : GameState, GameState_is_terminal s = Res.guard s.isTerminalPanics s.isTerminal) ∧
    (∀ (s : GameState) (cr : Bool), GameState_can_pass s cr = Res.guard (s.canPassPanics cr) (s.canPass cr)) :=
  ⟨Code.valid_actions_, Code.has_move, Code.is_terminal, Code.can_pass⟩

/-- **C07 for the code as it is now**: whatever the regenerated `has_move` and `valid_actions` return,
"no result" coincides with "the offered list is non-empty" -/
theorem C07_code_has_move_iff (s : GameState) (pp : PlayPhase) (hph : s.phase = .play pp) (h3 : pp.step ≤ 3)
    (r : Option Terminal) (l : List Action)
    (hr : GameState_has_move s s.board = .ok r) (hl : GameState_valid_actions s = .ok l) :
    r = none ↔ l ≠ [] := by
  have h1 := RsAgree.eq_of_guard_eq_ok (Code.has_move s s.board) hr
  have h2 := Code.offered hl
  subst h1 h2
  exact C07_has_move_iff s pp hph h3

/-- **C07 for the code as it is now**: in a play-phase state with step counter at most 3, if the regenerated
`is_terminal` returns "no result" then the list the regenerated `valid_actions` returns is not empty: a driver that
asks for the result before asking for actions never gets stuck -/
theorem C07_code_no_result_nonempty (s : GameState) (pp : PlayPhase) (hph : s.phase = .play pp) (h3 : pp.step ≤ 3)
    (l : List Action) (ht : GameState_is_terminal s = .ok none) (hl : GameState_valid_actions s = .ok l) : l ≠ [] := by
  have h1 := Code.result ht
  have h2 := Code.offered hl
  subst h2
  exact C07_no_result_nonempty s pp hph h3 h1.symm

end Arimaa
