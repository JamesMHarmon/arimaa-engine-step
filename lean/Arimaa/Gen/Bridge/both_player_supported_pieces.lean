-- GENERATED by /verif/tools/gen.py -- do not edit.  Bridge from the current text of `both_player_supported_pieces` to the baseline text.
import Arimaa.Gen.Rs
import Arimaa.Gen.RsBase
import Arimaa.Gen.BridgeLadder
import Arimaa.Gen.Bridge.supported_pieces

namespace Arimaa.Gen.Bridge
open Arimaa Arimaa.Gen Arimaa.Rt

set_option maxHeartbeats 1000000 in
theorem bridge_both_player_supported_pieces : @Rs.both_player_supported_pieces = @RsBase.both_player_supported_pieces := by
  funext a0
  rs_ladder [Rs.both_player_supported_pieces, RsBase.both_player_supported_pieces, bridge_supported_pieces] [RsBase.supported_pieces] (skip) [Rs.both_player_supported_pieces, RsBase.both_player_supported_pieces, Rs.supported_pieces, RsBase.supported_pieces]

end Arimaa.Gen.Bridge
