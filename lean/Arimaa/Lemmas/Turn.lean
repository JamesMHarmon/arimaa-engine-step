import Arimaa.Lemmas.ListLogic
import Arimaa.Lemmas.Place

/-!
The turn bookkeeping of `GameState.movePiece` and `GameState.pass`: the successor of a mid-turn step and the
state a turn end builds (`turnEnd`), side and move number after an action, the invariant `TurnInv`, runs of
actions, and the boards a turn records along its steps (`prev_runMoves`, what C14 reads).  No bit-level reasoning.
-/
namespace Arimaa
namespace GameState

def TurnInv (s : GameState) : Prop :=
  match s.phase with
  | .play pp => pp.step ≤ 3 ∧ (pp.step = 0 → pp.pps = .none ∧ pp.trapped = false)
  | .place => True

theorem TurnInv.play {s : GameState} (h : TurnInv s) {pp : PlayPhase} (hph : s.phase = .play pp) :
    pp.step ≤ 3 ∧ (pp.step = 0 → pp.pps = .none ∧ pp.trapped = false) := by
  unfold TurnInv at h
  rw [hph] at h
  exact h

def _root_.Arimaa.Action.isTurnAction : Action → Bool
  | .move _ _ => true
  | .pass => true
  | .place _ => false

def _root_.Arimaa.Action.isPlace : Action → Bool
  | .place _ => true
  | _ => false

def endsTurn (pp : PlayPhase) : Action → Bool
  | .pass => true
  | .move _ _ => decide (pp.step ≥ 3)
  | .place _ => false

def run (s : GameState) (as : List Action) : GameState := as.foldl takeAction s

/-- `run` on steps given as (square, direction), the form C14 speaks of -/
def runMoves (s : GameState) (ms : List (Nat × Dir)) : GameState :=
  ms.foldl (fun s m => s.movePiece m.1 m.2) s

@[simp] theorem run_nil (s : GameState) : s.run [] = s := rfl
@[simp] theorem run_cons (s : GameState) (a : Action) (as : List Action) :
    s.run (a :: as) = (s.takeAction a).run as := rfl
theorem run_append (s : GameState) (as bs : List Action) :
    s.run (as ++ bs) = (s.run as).run bs := by simp [run, List.foldl_append]

@[simp] theorem runMoves_nil (s : GameState) : s.runMoves [] = s := rfl
@[simp] theorem runMoves_cons (s : GameState) (m : Nat × Dir) (ms : List (Nat × Dir)) :
    s.runMoves (m :: ms) = (s.movePiece m.1 m.2).runMoves ms := rfl
theorem runMoves_snoc (s : GameState) (ms : List (Nat × Dir)) (m : Nat × Dir) :
    s.runMoves (ms ++ [m]) = (s.runMoves ms).movePiece m.1 m.2 := by
  simp [runMoves, List.foldl_append]

theorem runMoves_eq_run (s : GameState) (ms : List (Nat × Dir)) :
    s.runMoves ms = s.run (ms.map fun m => Action.move m.1 m.2) := by
  induction ms generalizing s with
  | nil => rfl
  | cons m ms ih => simp [ih, takeAction]

theorem movePiece_lt3 (s : GameState) (pp : PlayPhase) (hph : s.phase = .play pp) (sq : Nat) (d : Dir)
    (hlt : pp.step < 3) :
    s.movePiece sq d =
      { p1Turn := s.p1Turn
        moveNo := s.moveNo
        phase := .play
          { initHash := pp.initHash
            pps := s.nextPushPullState pp sq d
            hist := if (s.board.takeMove sq d).2 then [] else pp.hist
            prev := pp.prev ++ [s.board]
            trapped := pp.trapped || (s.board.takeMove sq d).2 }
        board := (s.board.takeMove sq d).1
        hash := zMovePiece s.hash s.p1Turn s.board pp.step (s.board.takeMove sq d).1
          (pp.step + 1) s.p1Turn } := by
  have h3 : ¬ pp.step ≥ 3 := by omega
  simp [movePiece, hph, h3]

/-- The state that `pass` and the fourth `move_piece` of a turn both build: the other side to move, the move
number advanced after Silver, a fresh turn record.  What differs between the two is in the arguments: the board
`nb` left, the hash `h`, and what clears the history (`cap`: a capture earlier in the turn for `pass`, a capture
by this very step for the step). -/
def turnEnd (s : GameState) (pp : PlayPhase) (nb : Board) (cap : Bool) (h : BB) : GameState :=
  { p1Turn := !s.p1Turn
    moveNo := s.moveNo + (if s.p1Turn then 0 else 1)
    phase := .play (PlayPhase.initial h (h :: if cap then [] else pp.hist))
    board := nb
    hash := h }

theorem movePiece_ge3 (s : GameState) (pp : PlayPhase) (hph : s.phase = .play pp) (sq : Nat) (d : Dir)
    (hge : pp.step ≥ 3) :
    s.movePiece sq d = turnEnd s pp (s.board.takeMove sq d).1 (s.board.takeMove sq d).2
      (zMovePiece s.hash s.p1Turn s.board pp.step (s.board.takeMove sq d).1 0 (!s.p1Turn)) := by
  cases hp : s.p1Turn <;> simp [movePiece, turnEnd, hph, hge, hp]

theorem pass_play (s : GameState) (pp : PlayPhase) (hph : s.phase = .play pp) :
    s.pass = turnEnd s pp s.board pp.trapped (zPass s.hash pp.step) := by
  simp [pass, turnEnd, hph]

theorem turnEnd_of_endsTurn (s : GameState) (pp : PlayPhase) (hph : s.phase = .play pp) (a : Action)
    (he : endsTurn pp a = true) : ∃ nb cap h, s.takeAction a = turnEnd s pp nb cap h := by
  cases a with
  | pass => exact ⟨_, _, _, pass_play s pp hph⟩
  | move sq d => exact ⟨_, _, _, movePiece_ge3 s pp hph sq d (of_decide_eq_true he)⟩
  | place p => cases he

theorem takeAction_side_moveNo (s : GameState) (pp : PlayPhase) (hph : s.phase = .play pp) (a : Action)
    (ha : a.isTurnAction = true) :
    (s.takeAction a).p1Turn = (if endsTurn pp a then !s.p1Turn else s.p1Turn) ∧
    (s.takeAction a).moveNo = s.moveNo + (if endsTurn pp a && !s.p1Turn then 1 else 0) := by
  cases he : endsTurn pp a
  · cases a with
    | place p => cases ha
    | pass => cases he
    | move sq d =>
      show (s.movePiece sq d).p1Turn = _ ∧ (s.movePiece sq d).moveNo = _
      rw [movePiece_lt3 s pp hph sq d (Nat.lt_of_not_le (of_decide_eq_false he))]
      exact ⟨rfl, rfl⟩
  · obtain ⟨nb, cap, h, e⟩ := turnEnd_of_endsTurn s pp hph a he
    rw [e]
    show (!s.p1Turn) = _ ∧ s.moveNo + (if s.p1Turn then 0 else 1) = _
    cases s.p1Turn <;> exact ⟨rfl, rfl⟩

theorem _root_.Arimaa.play_inj {s : GameState} {pp pp' : PlayPhase} (h : s.phase = .play pp) (h' : s.phase = .play pp') :
    pp = pp' := by
  rw [h] at h'; injection h'

theorem isPlay_iff (s : GameState) : s.isPlay = true ↔ ∃ pp, s.phase = .play pp := by
  cases hp : s.phase <;> simp [isPlay, playPhase?, hp]

theorem withheld_false_of_not_endsTurn (s : GameState) (pp : PlayPhase) (a : Action)
    (he : endsTurn pp a = false) : s.withheld pp a = false := by
  cases a with
  | pass => cases he
  | place p => simp [withheld, isPassingLikeAction]
  | move sq d =>
    have : ¬ pp.step = 3 := by simp [endsTurn] at he; omega
    simp [withheld, this]

theorem step_initial (h : BB) (hist : List BB) : (PlayPhase.initial h hist).step = 0 := rfl

theorem turnInv_of_initial (s : GameState) (h : BB) (hist : List BB)
    (hph : s.phase = .play (PlayPhase.initial h hist)) : TurnInv s := by
  simp [TurnInv, hph, PlayPhase.initial, PlayPhase.step]

theorem turnInv_of_place (s : GameState) (hph : s.phase = .place) : TurnInv s := by
  simp [TurnInv, hph]

theorem turnInv_initial : TurnInv GameState.initial := turnInv_of_place _ rfl

theorem turnInv_place (s : GameState) (p : Piece) : TurnInv (s.place p) := by
  have hph := place_phase s p
  split at hph
  · exact turnInv_of_initial _ _ _ hph
  · exact turnInv_of_place _ hph

theorem turnInv_pass (s : GameState) (h : TurnInv s) : TurnInv s.pass := by
  cases hph : s.phase with
  | place => simpa [pass, hph] using h
  | play pp => rw [pass_play s pp hph]; exact turnInv_of_initial _ _ _ rfl

theorem turnInv_movePiece (s : GameState) (sq : Nat) (d : Dir) (h : TurnInv s) :
    TurnInv (s.movePiece sq d) := by
  cases hph : s.phase with
  | place => simpa [movePiece, hph] using h
  | play pp =>
    by_cases hlt : pp.step < 3
    · rw [movePiece_lt3 s pp hph sq d hlt]
      simp only [TurnInv, PlayPhase.step, List.length_append, List.length_cons, List.length_nil]
      simp only [PlayPhase.step] at hlt
      omega
    · rw [movePiece_ge3 s pp hph sq d (by omega)]; exact turnInv_of_initial _ _ _ rfl

theorem turnInv_takeAction (s : GameState) (a : Action) (h : TurnInv s) :
    TurnInv (s.takeAction a) := by
  cases a with
  | pass => exact turnInv_pass s h
  | place p => exact turnInv_place s p
  | move sq d => exact turnInv_movePiece s sq d h

theorem turnInv_run (s : GameState) (as : List Action) (h : TurnInv s) : TurnInv (s.run as) := by
  induction as generalizing s with
  | nil => exact h
  | cons a as ih => exact ih _ (turnInv_takeAction s a h)

def stateAfter (s0 : GameState) (ms : List (Nat × Dir)) (i : Nat) : GameState :=
  s0.runMoves (ms.take i)

theorem stateAfter_length (s0 : GameState) (ms : List (Nat × Dir)) :
    s0.stateAfter ms ms.length = s0.runMoves ms := by simp [stateAfter]

theorem stateAfter_zero (s0 : GameState) (ms : List (Nat × Dir)) :
    s0.stateAfter ms 0 = s0 := by simp [stateAfter]

theorem stateAfter_succ (s0 : GameState) (ms : List (Nat × Dir)) (i : Nat) (hi : i < ms.length) :
    s0.stateAfter ms (i + 1) = (s0.stateAfter ms i).movePiece ms[i].1 ms[i].2 := by
  simp only [stateAfter]
  rw [List.take_succ_eq_append_getElem hi, runMoves_snoc]

theorem prev_runMoves (s0 : GameState) (pp0 : PlayPhase) (hph : s0.phase = .play pp0)
    (h0 : pp0.prev = []) (ms : List (Nat × Dir)) :
    ms.length ≤ 3 → ∃ ppk, (s0.runMoves ms).phase = .play ppk ∧ ppk.step = ms.length ∧
      ppk.prev = (List.range ms.length).map (fun i => (s0.stateAfter ms i).board) := by
  induction ms using List.snoc_induction with
  | nil => intro _; exact ⟨pp0, hph, by simp [PlayPhase.step, h0], by simp [h0]⟩
  | snoc ms m ih =>
    intro hk
    rw [List.length_append, List.length_singleton] at hk
    obtain ⟨ppk, hk1, hstep, hk2⟩ := ih (by omega)
    rw [runMoves_snoc, movePiece_lt3 _ ppk hk1 _ _ (by omega)]
    refine ⟨_, rfl, by simp [PlayPhase.step, hk2], ?_⟩
    simp only  -- reduces `{ prev := …, … }.prev`
    rw [hk2, List.length_append, List.length_singleton, List.range_succ, List.map_append]
    congr 1
    · apply List.map_congr_left
      intro i hi
      rw [List.mem_range] at hi
      simp only [stateAfter]
      rw [List.take_append_of_le_length (by omega)]
    · simp [stateAfter]

end GameState

def AtTurnStart (s : GameState) : Prop := ∃ pp, s.phase = .play pp ∧ pp.step = 0 ∧ pp.pps = .none

open GameState in
theorem turnStart_of_endsTurn (s : GameState) (pp : PlayPhase) (hph : s.phase = .play pp) (a : Action)
    (h : endsTurn pp a = true) : AtTurnStart (s.takeAction a) ∧ (s.takeAction a).p1Turn = !s.p1Turn := by
  obtain ⟨nb, cap, h', e⟩ := turnEnd_of_endsTurn s pp hph a h
  rw [e]
  exact ⟨⟨_, rfl, rfl, rfl⟩, rfl⟩

end Arimaa
