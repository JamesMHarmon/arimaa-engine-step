import Arimaa.Lemmas.Replay

/-!
# C06 (second part) — what the repetition rules withhold, against exact boards

Property text: the offered action list equals, in the same order, the rule-only list minus exactly
those turn-ending actions (pass, or a fourth step) whose result would equal the turn's starting
board or would be the third start-of-turn occurrence of that board with that side to move; actions
that do not end the turn are never withheld.  Forgetting the history at a capture never changes
which actions are offered.

Proved here: the engine's hash-level test `withheld` against the board-level condition, read off the
ghost history `turnStarts`, `turnStartBoard`.  Soundness holds at FULL strength: every turn-ending
action of the rule-only list that breaks a repetition rule IS withheld.  The converse, hence the
exact characterisation of the offered list, and the capture clause (the offered list equals that of
`neverForget`, the variant state which never cleared its hash history) hold under the added
hypothesis `CollisionFreeAt`: no start-of-turn position of the game so far has the 64-bit hash of a
board that a turn-ending action of the rule-only list leads to, taken with either side to move,
unless it is that very board with that side.  Without it they are false for the implementation:
finding F8 of DESIGN.md §6 is a legal game of 55 actions at whose end a pass is withheld although the
resulting position never occurred before (two distinct legal boards with equal Zobrist value;
`C06_full_strength_is_false`).  What is missing from full strength is exactly `CollisionFreeAt`.

All theorems are for every start state (`StartOk`) and every game of any length played through
actions of the rule-only list `validActionsNoRep` — a superset of the games played through offered
actions (`offered_offeredNR`), so "all reachable states with all possible histories" is covered.
-/
namespace Arimaa
open GameState

/-- **Soundness of the repetition test, full strength.**  At the state reached by any game `as`
from a start state, a turn-ending action `a` of the rule-only list whose resulting board equals the
board at the start of the turn, or whose resulting (board, side to move) occurs at least twice among
the starts of turn so far, is withheld by the hash-level test and therefore not offered. -/
theorem C06_sound (s0 : GameState) (h0 : StartOk s0) (as : List Action) (ho : OfferedNR s0 as)
    (pp : PlayPhase) (hph : (s0.run as).phase = .play pp) (a : Action)
    (ha : a ∈ (s0.run as).validActionsNoRep) (hend : endsTurn pp a = true)
    (hrep : ((s0.run as).takeAction a).board = turnStartBoard s0 as ∨
      2 ≤ (turnStarts s0 as).count
        (((s0.run as).takeAction a).board, ((s0.run as).takeAction a).p1Turn)) :
    (s0.run as).withheld pp a = true ∧ a ∉ (s0.run as).validActions := by
  have h := histInv_game_of_phase s0 h0 as ho pp hph
  exact ⟨withheld_of_repeat _ _ pp h a ha hend hrep, fun hin => no_repeat_of_offered _ _ pp h a hin hend hrep⟩

/-- the `CollisionFree` hypothesis at the state reached by the game `as` from `s0`: for every board
`nb` that a turn-ending action of the rule-only list leads to, every start-of-turn position `p` so
far and either side `sd`: if `p` has the hash of (`nb`, `sd`) then `p` is (`nb`, `sd`) -/
def CollisionFreeAt (s0 : GameState) (as : List Action) (pp : PlayPhase) : Prop :=
  CollisionFree (turnStarts s0 as) (turnEndResults (s0.run as) pp)

/-- `CollisionFreeAt` spelled out. -/
theorem C06_collisionFreeAt_iff (s0 : GameState) (as : List Action) (pp : PlayPhase) :
    CollisionFreeAt s0 as pp ↔
      ∀ a ∈ (s0.run as).validActionsNoRep, endsTurn pp a = true →
        ∀ p ∈ turnStarts s0 as, ∀ sd : Bool,
          zFromPieceBoard p.1 p.2 0 = zFromPieceBoard ((s0.run as).takeAction a).board sd 0 →
            p = (((s0.run as).takeAction a).board, sd) := by
  unfold CollisionFreeAt CollisionFree turnEndResults
  constructor
  · intro h a ha he p hp sd
    exact h _ (mem_turnEndResults _ pp a ha he) p hp sd
  · intro h nb hnb p hp sd
    obtain ⟨a, ha, rfl⟩ := List.mem_map.mp hnb
    obtain ⟨ha1, ha2⟩ := List.mem_filter.mp ha
    exact h a ha1 ha2 p hp sd

/-- `CollisionFreeAt` follows from injectivity of the start-of-turn hash on (board, side) pairs -/
theorem C06_collisionFreeAt_of_injective (s0 : GameState) (as : List Action) (pp : PlayPhase)
    (hinj : ∀ b sd b' sd', zFromPieceBoard b sd 0 = zFromPieceBoard b' sd' 0 → b = b' ∧ sd = sd') :
    CollisionFreeAt s0 as pp :=
  fun _ _ _ _ _ h => Prod.ext (hinj _ _ _ _ h).1 (hinj _ _ _ _ h).2

/-- **Exactness, PARTIAL: added hypothesis `CollisionFreeAt`.**  Full statement (false for the
implementation, finding F8): the same without `hcf`.  Under `CollisionFreeAt`, a turn-ending action
of the rule-only list is withheld if and only if its resulting board equals the board at the start
of the turn or its resulting (board, side to move) already occurred at least twice among the starts
of turn (so that it would be the third occurrence). -/
theorem C06_exact_partial (s0 : GameState) (h0 : StartOk s0) (as : List Action)
    (ho : OfferedNR s0 as) (pp : PlayPhase) (hph : (s0.run as).phase = .play pp) (a : Action)
    (ha : a ∈ (s0.run as).validActionsNoRep) (hend : endsTurn pp a = true)
    (hcf : CollisionFreeAt s0 as pp) :
    (s0.run as).withheld pp a = true ↔
      (((s0.run as).takeAction a).board = turnStartBoard s0 as ∨
        2 ≤ (turnStarts s0 as).count
          (((s0.run as).takeAction a).board, ((s0.run as).takeAction a).p1Turn)) :=
  (withheld_iff_repeat _ _ pp (histInv_game_of_phase s0 h0 as ho pp hph) a ha hcf).trans
    (and_iff_right hend)

/-- **The offered list, PARTIAL: added hypothesis `CollisionFreeAt`.**  An action is offered iff it
is in the rule-only list and is not a turn-ending action whose result equals the turn-start board
or would be a third occurrence.  (Order: `C06_filter_shape`, `C06_sublist`.) -/
theorem C06_offered_iff_partial (s0 : GameState) (h0 : StartOk s0) (as : List Action)
    (ho : OfferedNR s0 as) (pp : PlayPhase) (hph : (s0.run as).phase = .play pp)
    (hcf : CollisionFreeAt s0 as pp) (a : Action) :
    a ∈ (s0.run as).validActions ↔
      a ∈ (s0.run as).validActionsNoRep ∧
        ¬ (endsTurn pp a = true ∧
          (((s0.run as).takeAction a).board = turnStartBoard s0 as ∨
            2 ≤ (turnStarts s0 as).count
              (((s0.run as).takeAction a).board, ((s0.run as).takeAction a).p1Turn))) :=
  mem_validActions_iff_repeat _ _ pp (histInv_game_of_phase s0 h0 as ho pp hph) hcf a

/-- **Forgetting at a capture, PARTIAL: added hypothesis `CollisionFreeAt`.**  Full statement: the
same without `hcf`.  The offered list of the reached state equals the offered list of the variant
state `neverForget` — identical except that its hash history holds the hashes of ALL starts of turn
since the start state (nothing was dropped at captures) and its capture flag is cleared, so that the
fourth-step filter is always on. -/
theorem C06_forget_at_capture_partial (s0 : GameState) (h0 : StartOk s0) (as : List Action)
    (ho : OfferedNR s0 as) (pp : PlayPhase) (hph : (s0.run as).phase = .play pp)
    (hcf : CollisionFreeAt s0 as pp) :
    (s0.run as).validActions = (neverForget (s0.run as) pp (turnStarts s0 as)).validActions :=
  validActions_neverForget _ _ pp (histInv_game_of_phase s0 h0 as ho pp hph) hcf

/-- what `neverForget` is: same board, side, move number, hash, step record, status and turn-start
hash; the history is the full list of start-of-turn hashes, newest first; capture flag cleared -/
theorem C06_neverForget_fields (s : GameState) (pp : PlayPhase) (G : List (Board × Bool)) :
    (neverForget s pp G).board = s.board ∧ (neverForget s pp G).p1Turn = s.p1Turn ∧
    (neverForget s pp G).moveNo = s.moveNo ∧ (neverForget s pp G).hash = s.hash ∧
    (neverForget s pp G).phase = .play
      { prev := pp.prev, pps := pp.pps, initHash := pp.initHash,
        hist := (G.map (fun p => zFromPieceBoard p.1 p.2 0)).reverse, trapped := false } :=
  ⟨rfl, rfl, rfl, rfl, rfl⟩

attribute [local instance] decNoRep decOffered decCollisionFree

/-- Gold elephant on e4 (square 36), Silver elephant on b7 (square 9). -/
private def exB : Board := Board.new (sqBit 36) (sqBit 36 ||| sqBit 9) 0 0 0 0 0

private def ex0 : GameState :=
  { p1Turn := true, moveNo := 2, board := exB, hash := zPos exB true
    phase := .play (PlayPhase.initial (zPos exB true) [zPos exB true]) }

private theorem ex0_start : StartOk ex0 := ⟨wf_of_wfWords _ (by decide +kernel), rfl, rfl⟩

private def exThere : List Action := [.move 36 .up, .move 28 .down, .move 36 .up]

private def exThereState : GameState := ex0.run exThere

private def exTherePP : PlayPhase :=
  match exThereState.phase with
  | .play pp => pp
  | .place => default

/-- `C06_sound` applies: after e4n e5s e4n the fourth step e5s restores the turn-start board, so it
is withheld. -/
example : Action.move 28 .down ∉ (ex0.run exThere).validActions := by
  have h : Offered ex0 exThere ∧ (ex0.run exThere).phase = .play exTherePP ∧
      Action.move 28 .down ∈ (ex0.run exThere).validActionsNoRep ∧
      endsTurn exTherePP (.move 28 .down) = true ∧
      ((ex0.run exThere).takeAction (.move 28 .down)).board = turnStartBoard ex0 exThere := by
    unfold exTherePP exThereState turnStartBoard
    generalize hs : ex0.run exThere = s
    generalize hG : turnStarts ex0 exThere = G
    apply replay_all ex0_start hs hG
    decide +kernel
  exact (C06_sound ex0 ex0_start exThere (offered_offeredNR _ _ h.1) exTherePP h.2.1 _ h.2.2.1
    h.2.2.2.1 (Or.inl h.2.2.2.2)).2

/-- `CollisionFreeAt` is satisfiable: it holds at that state (one start-of-turn position; four
fourth steps and the pass; checked by evaluating the hashes). -/
example : CollisionFreeAt ex0 exThere exTherePP := by
  unfold CollisionFreeAt exTherePP exThereState
  generalize hs : ex0.run exThere = s
  generalize hG : turnStarts ex0 exThere = G
  apply replay_prop ex0_start hs hG
  decide +kernel

end Arimaa
