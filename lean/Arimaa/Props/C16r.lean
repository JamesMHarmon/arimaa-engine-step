import Arimaa.Props.C16
import Arimaa.Lemmas.RsAgreeNotation
import Arimaa.Lemmas.PanicSites

/-!
C16 for the regenerated code (`Gen/RsSq.lean`): conversions, parsers, printers.  `square.rs`, `bit_manip.rs`,
`action.rs::map_bit_board_to_squares` (its `while` loop as a fuel-bounded loop), the four `FromStr` parsers (a `&str` is
the list of its chars, `Result<T, _>` is `Option T`) and the `Display` printers (`write!` / `format!` append to the text
written so far) are translated into `Gen/RsSq.lean` on every run.
-/
namespace Arimaa
open Gen Arimaa.Gen.RsSq Arimaa.Rt

/-- the agreement theorems C16 rests on, as one obligation -/
theorem C16_code_agrees :
    (∀ sq, Square_as_bit_board sq = Rt.asBitBoard sq) ∧
    (∀ x : BB, Square_from_bit_board x = sqOfBit x) ∧
    (∀ sq, Square_index sq = sq) ∧ (∀ i, Square_from_index i = i) ∧
    (∀ x : BB, first_set_bit x = Rt.firstSetBit x) ∧
    (∀ x : BB, map_bit_board_to_squares x = .ok (squaresOf x)) ∧
    (∀ sq, Square_row sq = Res.guard (sqRowPanics sq) (sqRow sq)) ∧
    (∀ sq, Square_column_char sq = .ok (sqColumnChar sq)) ∧
    (∀ (c : Char) (row : Nat), c.toNat < 256 → Square_new c row = Res.guard (sqNewPanics c row) (sqNew c row)) :=
  ⟨RsAgree.square_as_bit_board, RsAgree.square_from_bit_board, RsAgree.square_index, RsAgree.square_from_index,
   RsAgree.first_set_bit, RsAgree.map_bit_board_to_squares_eq, RsAgree.square_row, RsAgree.square_column_char,
   RsAgree.square_new_ascii⟩

/-- **C16 (set bits) for the code as it is now**: the regenerated `map_bit_board_to_squares` never panics and lists
exactly the set bits of the word, in ascending order, without duplicates -/
theorem C16_code_squares_of_bitboard (x : BB) :
    ∃ l, map_bit_board_to_squares x = .ok l ∧
      (∀ i, i ∈ l ↔ i < 64 ∧ bit x i = true) ∧ l.Pairwise (· < ·) ∧ l.Nodup :=
  ⟨squaresOf x, RsAgree.map_bit_board_to_squares_eq x, C16_squares_of_bitboard x⟩

/-- **C16 (square conversions) for the code as it is now**: for every square of the board, `as_bit_board` returns a
single-bit word from which `from_bit_board` recovers the square, `column_char` / `row` return the coordinates, and
`new` on those coordinates returns the square again; none of them panics -/
theorem C16_code_square_conversions (sq : Nat) (h : sq < 64) :
    Square_as_bit_board sq = .ok (sqBit sq) ∧ Square_from_bit_board (sqBit sq) = sq ∧
    Square_column_char sq = .ok (sqColumnChar sq) ∧ Square_row sq = .ok (sqRow sq) ∧
    Square_new (sqColumnChar sq) (sqRow sq) = .ok sq := by
  have hrow := (sqRowPanics_eq sq).trans (decide_eq_false (by omega))
  refine ⟨?_, ?_, RsAgree.square_column_char sq, ?_, ?_⟩
  · rw [RsAgree.square_as_bit_board]
    exact if_neg (by omega)
  · rw [RsAgree.square_from_bit_board, sqOfBit_sqBit sq h]
  · rw [RsAgree.square_row, hrow]; rfl
  · rw [RsAgree.square_new_ok _ (sqRow sq) (by rw [sqColumnChar_toNat]; omega)
      (by rw [sqColumnChar_toNat]; omega) (Nat.sub_le _ _), sqNew_column_row sq h]

/-- the four regenerated parsers agree with the hand-written ones on every string -/
theorem C16_code_parsers_agree (t : List Char) :
    Action_from_str t = RsAgree.ofOutcome (parseAction t) ∧ Square_from_str t = RsAgree.ofOutcome (parseSquare t) ∧
    Piece_from_str t = (match parsePiece t with | .ok p => some p | _ => none) ∧
    Direction_from_str t = (match parseDir t with | .ok d => some d | _ => none) :=
  ⟨RsAgree.action_from_str t, RsAgree.square_from_str t, RsAgree.piece_from_str t, RsAgree.direction_from_str t⟩

/-- **C16 (no panic) for the code as it is now**: the regenerated `Action::from_str` and `Square::from_str` return
(`Ok` or `Err`) on EVERY string — in particular on strings with multi-byte characters, characters whose low byte is
a file letter, digits beyond 8, and strings of any length -/
theorem C16_code_no_panic (t : List Char) : Action_from_str t ≠ .panic ∧ Square_from_str t ≠ .panic := by
  rw [RsAgree.action_from_str, RsAgree.square_from_str]
  exact ⟨RsAgree.ofOutcome_ne_panic.mpr (C16_no_panic t).1, RsAgree.ofOutcome_ne_panic.mpr (C16_no_panic t).2.1⟩

/-- **C16 (round trip) for the code as it is now**: the regenerated parser returns `Ok(a)` on the printed form of
every action whose square is on the board -/
theorem C16_code_action_roundtrip (a : Action) (h : ∀ sq d, a = .move sq d → sq < 64) :
    Action_from_str (showAction a) = .ok (some a) := by
  rw [RsAgree.action_from_str, C16_action_roundtrip a h]; rfl

/-- **C16 (only printed forms) for the code as it is now**: whenever the regenerated `Action::from_str` returns
`Ok(a)`, the string is the printed form of `a` (or the upper-case letter of a placement); whenever the regenerated
`Square::from_str` returns `Ok(sq)`, `sq` is one of the 64 squares and the string is its printed form -/
theorem C16_code_only_printed_forms (t : List Char) :
    (∀ a, Action_from_str t = .ok (some a) →
      t = showAction a ∨ ∃ p, a = .place p ∧ t = [(pieceLetter p).toUpper]) ∧
    (∀ sq, Square_from_str t = .ok (some sq) → sq < 64 ∧ t = showSquare sq) := by
  rw [RsAgree.action_from_str, RsAgree.square_from_str]
  exact ⟨fun a h => C16_only_printed_forms t a (RsAgree.ofOutcome_eq_ok_some.mp h),
    fun sq h => C16_only_printed_forms_square t sq (RsAgree.ofOutcome_eq_ok_some.mp h)⟩

/-- the regenerated printers agree with the hand-written ones -/
theorem C16_code_printers_agree :
    (∀ (a : Action) (f : List Char), Action_fmt a f = Res.guard (showActionPanics a) (f ++ showAction a)) ∧
    (∀ (sq : Nat) (f : List Char), Square_fmt sq f = Res.guard (showSquarePanics sq) (f ++ showSquare sq)) ∧
    (∀ (p : Piece) (f : List Char), Piece_fmt p f = f ++ showPiece p) ∧
    (∀ (d : Dir) (f : List Char), Direction_fmt d f = f ++ showDir d) :=
  ⟨RsAgree.action_fmt, RsAgree.square_fmt, RsAgree.piece_fmt, RsAgree.direction_fmt⟩

/-- **C16 (round trip), printer AND parser as they are now**: for every action whose square is on the board the
regenerated `Display` returns a text (does not panic), and the regenerated `from_str` returns `Ok` of that very
action on it -/
theorem C16_code_print_parse_roundtrip (a : Action) (h : ∀ sq d, a = .move sq d → sq < 64) :
    ∃ text, Action_fmt a [] = .ok text ∧ Action_from_str text = .ok (some a) := by
  refine ⟨showAction a, ?_, C16_code_action_roundtrip a h⟩
  rw [RsAgree.action_fmt]
  have hp := showActionPanics_false h
  rw [hp]; simp [Res.guard]

end Arimaa
