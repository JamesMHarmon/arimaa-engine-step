-- GENERATED by /verif/tools/gen.py -- do not edit.  Bridge from the current text of `Zobrist::board_state_hash` to the baseline text.
import Arimaa.Gen.Rs
import Arimaa.Gen.RsBase
import Arimaa.Gen.BridgeLadder

namespace Arimaa.Gen.Bridge
open Arimaa Arimaa.Gen Arimaa.Rt

set_option maxHeartbeats 1000000 in
theorem bridge_Zobrist_board_state_hash : @Rs.Zobrist_board_state_hash = @RsBase.Zobrist_board_state_hash := by
  funext a0
  rs_ladder [Rs.Zobrist_board_state_hash, RsBase.Zobrist_board_state_hash] [] (skip) [Rs.Zobrist_board_state_hash, RsBase.Zobrist_board_state_hash]

end Arimaa.Gen.Bridge
