-- GENERATED by /verif/tools/gen.py -- do not edit.  Bridge from the current text of `animal_is_on_trap` to the baseline text.
import Arimaa.Gen.Rs
import Arimaa.Gen.RsBase
import Arimaa.Gen.BridgeLadder

namespace Arimaa.Gen.Bridge
open Arimaa Arimaa.Gen Arimaa.Rt

set_option maxHeartbeats 1000000 in
theorem bridge_animal_is_on_trap : @Rs.animal_is_on_trap = @RsBase.animal_is_on_trap := by
  funext a0
  rs_ladder [Rs.animal_is_on_trap, RsBase.animal_is_on_trap] [] (skip) [Rs.animal_is_on_trap, RsBase.animal_is_on_trap]

end Arimaa.Gen.Bridge
