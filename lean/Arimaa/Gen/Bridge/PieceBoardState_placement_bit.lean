-- GENERATED by /verif/tools/gen.py -- do not edit.  Bridge from the current text of `PieceBoardState::placement_bit` to the baseline text.
import Arimaa.Gen.Rs
import Arimaa.Gen.RsBase
import Arimaa.Gen.BridgeLadder

namespace Arimaa.Gen.Bridge
open Arimaa Arimaa.Gen Arimaa.Rt

set_option maxHeartbeats 1000000 in
theorem bridge_PieceBoardState_placement_bit : @Rs.PieceBoardState_placement_bit = @RsBase.PieceBoardState_placement_bit := by
  funext a0
  rs_ladder [Rs.PieceBoardState_placement_bit, RsBase.PieceBoardState_placement_bit] [] (skip) [Rs.PieceBoardState_placement_bit, RsBase.PieceBoardState_placement_bit]

end Arimaa.Gen.Bridge
