-- GENERATED by /verif/tools/gen.py -- do not edit.  Bridge from the current text of `is_p1_piece` to the baseline text.
import Arimaa.Gen.Rs
import Arimaa.Gen.RsBase
import Arimaa.Gen.BridgeLadder
import Arimaa.Gen.Bridge.PieceBoardState_player_piece_mask

namespace Arimaa.Gen.Bridge
open Arimaa Arimaa.Gen Arimaa.Rt

set_option maxHeartbeats 1000000 in
theorem bridge_is_p1_piece : @Rs.is_p1_piece = @RsBase.is_p1_piece := by
  funext a0 a1
  rs_ladder [Rs.is_p1_piece, RsBase.is_p1_piece, bridge_PieceBoardState_player_piece_mask] [RsBase.PieceBoardState_player_piece_mask] (skip) [Rs.is_p1_piece, RsBase.is_p1_piece, Rs.PieceBoardState_player_piece_mask, RsBase.PieceBoardState_player_piece_mask]

end Arimaa.Gen.Bridge
