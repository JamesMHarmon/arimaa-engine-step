import Arimaa.Lemmas.RsAgreeList

/-!
`Props/C20.lean` proves the stack bounds on a heap model whose `Drop` variant is selected from the source.  This
file ties the VALUES: the functions of `linked_list.rs`, regenerated on every run (`Gen/RsList.lean`), refine Lean
lists on every list the API can build — so "one `append` per turn start since the last capture" (`C05_history_step`)
speaks about the real container: `len()` is the number of entries `iter()` yields, `append` adds exactly one in front,
and nothing else in the file changes a list.
-/

namespace Arimaa.Props
open Arimaa.Rt Arimaa.Gen.RsList Arimaa.RsAgree.ListAgree

/-- **C20, code level (values).**  Every list built through the API of `linked_list.rs` behaves as the Lean list of
its elements (newest first): length, head, tail, emptiness, clone, iteration; `append` (below `usize::MAX`
elements) puts one element in front and yields a list that is again of this kind. -/
theorem C20_code_list_refines {T : Type} {l : Link T} (h : Built l) :
    List_len l = (toList l).length ∧ List_head l = (toList l).head? ∧ toList (List_tail l) = (toList l).tail ∧
    List_is_empty l = (toList l).isEmpty ∧ toList (List_clone l) = toList l ∧
    (∀ fuel, (toList l).length ≤ fuel → drain fuel (List_iter l) = toList l) ∧
    (∀ x, (toList l).length + 1 ≤ usizeMax → ∃ l', List_append l x = .ok l' ∧ toList l' = x :: toList l ∧ Built l') :=
  list_api_refines h

/-- one `append` grows the list by exactly one node: the cached length of the new head is the old length + 1 -/
theorem C20_code_append_grows_by_one {T : Type} {l l' : Link T} {x : T} (h : Built l) (ha : List_append l x = .ok l') :
    List_len l' = List_len l + 1 := by
  rw [(append_ok (built_wf h) ha).2, built_len h]; rfl

/-- the only panic in the file: `append` on a list of `usize::MAX` elements -/
theorem C20_code_append_panics_only_at_bound {T : Type} {l : Link T} (x : T) (h : Built l) :
    List_append l x = .panic ↔ usizeMax < (toList l).length + 1 := by
  rw [append_eq l x (built_wf h), Res.guard_eq_panic, decide_eq_true_iff]

example : ∃ l : Link Nat, Built l ∧ List_len l = 2 := by
  obtain ⟨l1, h1, t1, w1⟩ := append_spec (List_new : Link Nat) 1 new_spec.2 (by simp [new_spec.1, usizeMax])
  obtain ⟨l2, h2, t2, _⟩ := append_spec l1 2 w1 (by simp [t1, new_spec.1, usizeMax])
  have hb : Built l2 := Built.append (Built.append Built.new h1) h2
  exact ⟨l2, hb, by rw [built_len hb, t2, t1, new_spec.1]; rfl⟩

end Arimaa.Props
