-- GENERATED by /verif/tools/gen.py -- do not edit.  Bridge from the current text of `PlayPhase::piece_trapped_this_turn` to the baseline text.
import Arimaa.Gen.Rs
import Arimaa.Gen.RsBase
import Arimaa.Gen.BridgeLadder

namespace Arimaa.Gen.Bridge
open Arimaa Arimaa.Gen Arimaa.Rt

set_option maxHeartbeats 1000000 in
theorem bridge_PlayPhase_piece_trapped_this_turn : @Rs.PlayPhase_piece_trapped_this_turn = @RsBase.PlayPhase_piece_trapped_this_turn := by
  funext a0
  rs_ladder [Rs.PlayPhase_piece_trapped_this_turn, RsBase.PlayPhase_piece_trapped_this_turn] [] (skip) [Rs.PlayPhase_piece_trapped_this_turn, RsBase.PlayPhase_piece_trapped_this_turn]

end Arimaa.Gen.Bridge
