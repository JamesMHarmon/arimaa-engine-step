-- GENERATED by /verif/tools/gen.py -- do not edit.  Bridge from the current text of `Zobrist::move_piece` to the baseline text.
import Arimaa.Gen.Rs
import Arimaa.Gen.RsBase
import Arimaa.Gen.BridgeLadder
import Arimaa.Gen.Bridge.GameState_current_step
import Arimaa.Gen.Bridge.GameState_is_p1_turn_to_move
import Arimaa.Gen.Bridge.GameState_piece_board
import Arimaa.Gen.Bridge.piece_board_value
import Arimaa.Gen.Bridge.step_value

namespace Arimaa.Gen.Bridge
open Arimaa Arimaa.Gen Arimaa.Rt

set_option maxHeartbeats 1000000 in
theorem bridge_Zobrist_move_piece : @Rs.Zobrist_move_piece = @RsBase.Zobrist_move_piece := by
  funext a0 a1 a2 a3 a4
  rs_ladder [Rs.Zobrist_move_piece, RsBase.Zobrist_move_piece, bridge_GameState_current_step, bridge_GameState_is_p1_turn_to_move, bridge_GameState_piece_board, bridge_piece_board_value, bridge_step_value] [RsBase.GameState_current_step, RsBase.GameState_is_p1_turn_to_move, RsBase.GameState_piece_board, RsBase.piece_board_value, RsBase.step_value] (cases a4) [Rs.Zobrist_move_piece, RsBase.Zobrist_move_piece, Rs.GameState_as_play_phase, Rs.GameState_current_step, Rs.GameState_is_p1_turn_to_move, Rs.GameState_piece_board, Rs.GameState_unwrap_play_phase, Rs.PieceBoardState_bits_by_piece_type, Rs.PieceBoardState_bits_for_piece, Rs.PieceBoard_piece_board, Rs.PlayPhase_step, Rs.piece_board_value, Rs.piece_value, Rs.step_value, RsBase.GameState_as_play_phase, RsBase.GameState_current_step, RsBase.GameState_is_p1_turn_to_move, RsBase.GameState_piece_board, RsBase.GameState_unwrap_play_phase, RsBase.PieceBoardState_bits_by_piece_type, RsBase.PieceBoardState_bits_for_piece, RsBase.PieceBoard_piece_board, RsBase.PlayPhase_step, RsBase.piece_board_value, RsBase.piece_value, RsBase.step_value]

end Arimaa.Gen.Bridge
