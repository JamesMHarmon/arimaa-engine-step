import Arimaa.Lemmas.RsAgreeBoard
import Arimaa.Gen.Bridge.GameState_trapped_animal_for_action

namespace Arimaa.RsAgree
open Arimaa.Gen Arimaa.Gen.RsBase Arimaa.Rt

theorem trapped_animal_for_action_eq (s : GameState) (a : Action) :
    GameState_trapped_animal_for_action s a =
      Res.guard (s.trappedAnimalForActionPanics a) (s.trappedAnimalForAction a) := by
  unfold GameState_trapped_animal_for_action GameState.trappedAnimalForActionPanics
    GameState.trappedAnimalForAction
  cases a with
  | pass => rfl
  | place p => rfl
  | move sq d =>
    simp only [game_state_piece_board, board_move_piece, trapped_piece_bits, piece_type_at_square, asBitBoard_eq,
      bits_for_piece, unwrap_eq _ pieceTypeAtBitDefault, bind_guard_guard, bind_guard_ok, cond_guard_ok]
    simp only [Bool.cond_eq_ite, Bool.or_assoc]

end Arimaa.RsAgree

namespace Arimaa.Code
open Arimaa.Gen.Rs Arimaa.Rt Arimaa.Gen.Bridge

theorem trapped_animal_for_action (s : GameState) (a : Action) :
    GameState_trapped_animal_for_action s a =
      Res.guard (s.trappedAnimalForActionPanics a) (s.trappedAnimalForAction a) :=
  bridge_GameState_trapped_animal_for_action ▸ RsAgree.trapped_animal_for_action_eq s a

end Arimaa.Code
