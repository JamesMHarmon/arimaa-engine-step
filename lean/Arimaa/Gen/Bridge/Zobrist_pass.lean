-- GENERATED by /verif/tools/gen.py -- do not edit.  Bridge from the current text of `Zobrist::pass` to the baseline text.
import Arimaa.Gen.Rs
import Arimaa.Gen.RsBase
import Arimaa.Gen.BridgeLadder

namespace Arimaa.Gen.Bridge
open Arimaa Arimaa.Gen Arimaa.Rt

set_option maxHeartbeats 1000000 in
theorem bridge_Zobrist_pass : @Rs.Zobrist_pass = @RsBase.Zobrist_pass := by
  funext a0 a1
  rs_ladder [Rs.Zobrist_pass, RsBase.Zobrist_pass] [] (skip) [Rs.Zobrist_pass, RsBase.Zobrist_pass]

end Arimaa.Gen.Bridge
