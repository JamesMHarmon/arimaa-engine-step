-- root: every module of the library (one build target; also shows that no two modules clash)
import Arimaa.Impl.AutoTraits
import Arimaa.Impl.Basic
import Arimaa.Impl.Conc
import Arimaa.Impl.Engine
import Arimaa.Impl.ListStack
import Arimaa.Impl.Panics
import Arimaa.Impl.Text
import Arimaa.Impl.TyExpr
import Arimaa.Impl.Zobrist
import Arimaa.Spec.Machine
import Arimaa.Spec.Rules
import Arimaa.Spec.Symmetry
import Arimaa.Spec.Turns
import Arimaa.Lemmas.Abs
import Arimaa.Lemmas.Bits
import Arimaa.Lemmas.SquareBits
import Arimaa.Lemmas.Capture
import Arimaa.Lemmas.Conc
import Arimaa.Lemmas.ConcCount
import Arimaa.Lemmas.ConcCountExample
import Arimaa.Lemmas.ConcExact
import Arimaa.Lemmas.ConcExactExample
import Arimaa.Lemmas.Count
import Arimaa.Lemmas.Diagram
import Arimaa.Lemmas.Dirs
import Arimaa.Lemmas.Displace
import Arimaa.Lemmas.Enabled
import Arimaa.Lemmas.Frozen
import Arimaa.Lemmas.GenAgree
import Arimaa.Lemmas.GenAgreeFrozen
import Arimaa.Lemmas.GenAgreeMove
import Arimaa.Lemmas.GenAgreeCapture
import Arimaa.Lemmas.GenAgreeResult
import Arimaa.Lemmas.HashDelta
import Arimaa.Lemmas.HashInv
import Arimaa.Lemmas.HashPlace
import Arimaa.Lemmas.History
import Arimaa.Lemmas.IdxLoop
import Arimaa.Lemmas.Lexical
import Arimaa.Lemmas.ListLogic
import Arimaa.Lemmas.ListStack
import Arimaa.Lemmas.Material
import Arimaa.Lemmas.Move
import Arimaa.Lemmas.NoPanic
import Arimaa.Lemmas.PanicAttr
import Arimaa.Lemmas.PanicPlay
import Arimaa.Lemmas.PanicSites
import Arimaa.Lemmas.Nodup
import Arimaa.Lemmas.NodupCheck
import Arimaa.Lemmas.Notation
import Arimaa.Lemmas.Offered
import Arimaa.Lemmas.ParsePrint
import Arimaa.Lemmas.Place
import Arimaa.Lemmas.PlaceRep
import Arimaa.Lemmas.PlayStart
import Arimaa.Lemmas.Preview
import Arimaa.Lemmas.Pusher
import Arimaa.Lemmas.Replay
import Arimaa.Lemmas.Result
import Arimaa.Lemmas.Setup
import Arimaa.Lemmas.SetupStart
import Arimaa.Lemmas.Sim
import Arimaa.Lemmas.SpecCapture
import Arimaa.Lemmas.SpecMachine
import Arimaa.Lemmas.SpecRules
import Arimaa.Lemmas.SpecSymmetry
import Arimaa.Lemmas.Start
import Arimaa.Lemmas.StartInv
import Arimaa.Lemmas.SymExample
import Arimaa.Lemmas.SymResult
import Arimaa.Lemmas.SymRepetition
import Arimaa.Lemmas.SymTransfer
import Arimaa.Lemmas.Turn
import Arimaa.Lemmas.TurnsEquiv
import Arimaa.Lemmas.Types
import Arimaa.Lemmas.Xor
import Arimaa.Lemmas.ZobristTables
import Arimaa.Props.C01
import Arimaa.Props.C01b
import Arimaa.Props.C01c
import Arimaa.Props.C02
import Arimaa.Props.C02b
import Arimaa.Props.C03
import Arimaa.Props.C04
import Arimaa.Props.C05
import Arimaa.Props.C05b
import Arimaa.Props.C06
import Arimaa.Props.C06F8
import Arimaa.Props.C06b
import Arimaa.Props.C07
import Arimaa.Props.C08
import Arimaa.Props.C09
import Arimaa.Props.C10
import Arimaa.Props.C10b
import Arimaa.Props.C11
import Arimaa.Props.C11b
import Arimaa.Props.C12
import Arimaa.Props.C12b
import Arimaa.Props.C13
import Arimaa.Props.C14
import Arimaa.Props.C15
import Arimaa.Props.C16
import Arimaa.Props.C17
import Arimaa.Props.C18
import Arimaa.Props.C18b
import Arimaa.Props.C18c
import Arimaa.Props.C19
import Arimaa.Props.C20
import Arimaa.Props.C05c
import Arimaa.Gen.BitFns
import Arimaa.Gen.CharClasses
import Arimaa.Gen.Enums
import Arimaa.Gen.Masks
import Arimaa.Gen.Rs
import Arimaa.Gen.Rt
import Arimaa.Gen.Types
import Arimaa.Gen.Zobrist
import Arimaa.Lemmas.CodeHash
import Arimaa.Lemmas.CodeRuleOnly
import Arimaa.Lemmas.RsAgreeBoard
import Arimaa.Lemmas.RsAgreeGen
import Arimaa.Lemmas.RsAgreeHash
import Arimaa.Lemmas.RsAgreeOffered
import Arimaa.Lemmas.RsAgreePrevBoards
import Arimaa.Lemmas.RsAgreePreview
import Arimaa.Lemmas.RsAgreePure
import Arimaa.Lemmas.RsAgreeRep
import Arimaa.Lemmas.RsAgreeRes
import Arimaa.Lemmas.RsAgreeResult
import Arimaa.Lemmas.RsAgreeStep
import Arimaa.Lemmas.RsAgreeTHash
import Arimaa.Props.C01r
import Arimaa.Props.C02r
import Arimaa.Props.C03r
import Arimaa.Props.C04r
import Arimaa.Props.C05r
import Arimaa.Props.C06r
import Arimaa.Props.C07r
import Arimaa.Props.C08r
import Arimaa.Props.C09r
import Arimaa.Props.C10r
import Arimaa.Props.C11r
import Arimaa.Props.C12r
import Arimaa.Props.C13r
import Arimaa.Props.C14r
import Arimaa.Props.C15r
import Arimaa.Props.C17r
import Arimaa.Props.C19r
import Arimaa.Gen.BridgeTac
import Arimaa.Gen.RsBase
import Arimaa.Gen.RsSq
import Arimaa.Lemmas.RsAgreeNotation
import Arimaa.Lemmas.RsAgreeParse
import Arimaa.Lemmas.RsAgreeShow
import Arimaa.Lemmas.RsAgreeSquare
import Arimaa.Lemmas.RsAgreeSquareCore
import Arimaa.Props.C16r
import Arimaa.Gen.RsList
import Arimaa.Lemmas.RsAgreeList
import Arimaa.Props.C20r
import Arimaa.Props.C05l
import Arimaa.Props.C06l
import Arimaa.Gen.BridgeEval
import Arimaa.Gen.BridgeAttr
import Arimaa.Gen.BridgeLadder
import Arimaa.Props.C19l
