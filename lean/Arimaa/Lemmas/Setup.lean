import Arimaa.Lemmas.ListLogic
import Arimaa.Lemmas.PlaceRep
import Arimaa.Lemmas.Count

/-!
The setup phase: thirty-two placements in a fixed square order, sixteen per side, each side within
one army.  `BoardShape k` and `SetupShape k` describe board and state after `k` placements from the
state alone; `SetupRun ps s` says that `s` is reached by the offered placements `ps`.  `SetupBoard ps b`
is the closed form between them: `b` represents (`Rep`) the board `setupCells ps`, on which square `i`
holds piece number `placementIndex i` of `ps`.  A placement appends to `ps`, every board of the shape
is such a board, and the facts about runs are projections of one induction, `setupRun_closed`.
-/
namespace Arimaa
open Gen

/-- the square filled by placement number `k` (0-based): Gold a2..h2, a1..h1 are bits 48..63,
Silver a8..h8, a7..h7 are bits 0..15 -/
def placementSquare (k : Nat) : Nat := if k < 16 then 48 + k else k - 16

def complement : Piece → Nat
  | .elephant => 1
  | .camel => 1
  | .horse => 2
  | .dog => 2
  | .cat => 2
  | .rabbit => 8

/-- Board after `k` placements (0 ≤ k ≤ 32): Gold's pieces are exactly bits `48 .. 48 + min k 16 - 1`,
Silver's exactly bits `0 .. k - 16 - 1`; `all` is the union of the six type boards, which are
pairwise disjoint. -/
structure BoardShape (k : Nat) (b : Board) : Prop where
  all_iff : ∀ i, i < 64 → (bit b.all i = true ↔ (48 ≤ i ∧ i < 48 + min k 16) ∨ i < k - 16)
  p1_iff : ∀ i, i < 64 → (bit b.p1 i = true ↔ 48 ≤ i ∧ i < 48 + min k 16)
  union : b.all = b.elephants ||| b.camels ||| b.horses ||| b.dogs ||| b.cats ||| b.rabbits
  disjoint : ∀ t u, t ≠ u → b.typeBits t &&& b.typeBits u = 0

/-- what `valid_placement` counts -/
def moverCount (s : GameState) (t : Piece) : Nat :=
  popcount (s.board.typeBits t &&& s.currPlayerPieceMask s.board)

/-- The mover's counts are part of it although they are functions of the board: `valid_placement` reads
nothing else, so a placement step can be taken from any such state without knowing how it was reached.  The
mover has placed `k` pieces if Gold (`k < 16`) and `k - 16` if Silver: `k % 16` in both cases. -/
structure SetupShape (k : Nat) (s : GameState) : Prop where
  lt : k < 32
  board : BoardShape k s.board
  turn : s.p1Turn = decide (k < 16)
  moveNo : s.moveNo = 1
  phase : s.phase = .place
  count_le : ∀ t, moverCount s t ≤ complement t
  count_sum : moverCount s .elephant + moverCount s .camel + moverCount s .horse
    + moverCount s .dog + moverCount s .cat + moverCount s .rabbit = k % 16

theorem placementSquare_lt (k : Nat) (hk : k < 32) : placementSquare k < 64 := by
  unfold placementSquare; split <;> omega

theorem placementSquare_eq_63 (k : Nat) (hk : k < 32) : placementSquare k = 63 ↔ k = 15 := by
  unfold placementSquare; split <;> omega

theorem placementSquare_eq_15 (k : Nat) : placementSquare k = 15 ↔ k = 31 := by
  unfold placementSquare; split <;> omega

def placementIndex (i : Nat) : Nat := if 48 ≤ i then i - 48 else i + 16

theorem placementIndex_cases (i : Nat) :
    (48 ≤ i ∧ placementIndex i = i - 48) ∨ (i < 48 ∧ placementIndex i = i + 16) := by
  by_cases h : 48 ≤ i
  · exact Or.inl ⟨h, if_pos h⟩
  · exact Or.inr ⟨by omega, if_neg h⟩

theorem placementIndex_square (k : Nat) (hk : k < 64) : placementIndex (placementSquare k) = k := by
  unfold placementIndex placementSquare; split <;> split <;> omega

theorem placementSquare_index (i : Nat) (hi : i < 64) : placementSquare (placementIndex i) = i := by
  unfold placementIndex placementSquare; split <;> split <;> omega

theorem placementIndex_eq_iff {i k : Nat} (hi : i < 64) (hk : k < 64) :
    placementIndex i = k ↔ i = placementSquare k :=
  ⟨fun e => by rw [← e, placementSquare_index i hi], fun e => by rw [e, placementIndex_square k hk]⟩

theorem placementIndex_lt_iff {i : Nat} (hi : i < 64) (k : Nat) :
    placementIndex i < k ↔ (48 ≤ i ∧ i < 48 + min k 16) ∨ i < k - 16 := by
  rcases placementIndex_cases i with ⟨h1, h2⟩ | ⟨h1, h2⟩ <;> omega

theorem placementIndex_lt_min_iff (i k : Nat) :
    placementIndex i < min k 16 ↔ 48 ≤ i ∧ i < 48 + min k 16 := by
  rcases placementIndex_cases i with ⟨h1, h2⟩ | ⟨h1, h2⟩ <;> omega

theorem placementIndex_lt_16 {i : Nat} (hi : i < 64) : placementIndex i < 16 ↔ 48 ≤ i := by
  rcases placementIndex_cases i with ⟨h1, h2⟩ | ⟨h1, h2⟩ <;> omega

theorem BoardShape.all_index {k : Nat} {b : Board} (h : BoardShape k b) (i : Nat) (hi : i < 64) :
    bit b.all i = decide (placementIndex i < k) :=
  bool_eq_decide ((h.all_iff i hi).trans (placementIndex_lt_iff hi k).symm)

theorem BoardShape.p1_index {k : Nat} {b : Board} (h : BoardShape k b) (i : Nat) (hi : i < 64) :
    bit b.p1 i = decide (placementIndex i < min k 16) :=
  bool_eq_decide ((h.p1_iff i hi).trans (placementIndex_lt_min_iff i k).symm)

theorem BoardShape.wf {k : Nat} {b : Board} (h : BoardShape k b) : WF b :=
  wf_of_union_disjoint b h.union h.disjoint fun i hi hp =>
    (h.all_iff i hi).mpr (Or.inl ((h.p1_iff i hi).mp hp))

theorem BoardShape.all_next {k : Nat} {b : Board} (h : BoardShape k b) (hk : k < 32) :
    bit b.all (placementSquare k) = false := by
  rw [h.all_index _ (placementSquare_lt k hk), placementIndex_square k (by omega)]
  exact decide_eq_false (Nat.lt_irrefl k)

theorem BoardShape.all_prev {k : Nat} {b : Board} (h : BoardShape k b) (hk : k ≤ 32) {j : Nat}
    (hj : j < k) : bit b.all (placementSquare j) = true := by
  rw [h.all_index _ (placementSquare_lt j (by omega)), placementIndex_square j (by omega)]
  exact decide_eq_true hj

/-- the mask test of `placement_bit` -/
theorem BoardShape.p1_full {k : Nat} {b : Board} (h : BoardShape k b) :
    ((b.p1 &&& P1_PLACEMENT_MASK) == P1_PLACEMENT_MASK) = decide (16 ≤ k) := by
  apply bool_eq_decide
  rw [beq_iff_eq]
  constructor
  · intro he
    have h1 : bit (b.p1 &&& P1_PLACEMENT_MASK) 63 = bit P1_PLACEMENT_MASK 63 := by rw [he]
    rw [bit_and, p1_placement_bit 63 (by omega), h.p1_index 63 (by omega)] at h1
    have : (15 : Nat) < min k 16 := of_decide_eq_true (Bool.and_eq_true_iff.mp h1).1
    omega
  · intro hk
    apply bb_ext; intro i hi
    rw [bit_and, p1_placement_bit i hi, h.p1_index i hi, Nat.min_eq_right hk,
      decide_eq_decide.mpr (placementIndex_lt_16 hi)]
    exact Bool.and_self _

/-- `placement_bit` is the single bit of the next square in the mover's order: it is free, and
below it every square of the mover's home rows is occupied -/
theorem BoardShape.placementBit_eq {k : Nat} {b : Board} (h : BoardShape k b) (hk : k < 32) :
    b.placementBit = sqBit (placementSquare k) := by
  have hq := placementSquare_lt k hk
  have hfree := h.all_next hk
  -- of the square only its index is used: `omega` sees `q` through `placementIndex_cases`
  have hidx := placementIndex_square k (by omega)
  generalize placementSquare k = q at hq hfree hidx ⊢
  unfold Board.placementBit
  rw [h.p1_full]
  by_cases h16 : 16 ≤ k
  · rw [decide_eq_true h16, if_pos rfl]
    apply firstSetBit_free _ _ _ hq _ hfree
    · intro i hi _
      rw [h.all_index i (by omega)]
      exact decide_eq_true (by
        rcases placementIndex_cases i with ⟨h1, h2⟩ | ⟨h1, h2⟩ <;>
          rcases placementIndex_cases q with ⟨q1, q2⟩ | ⟨q1, q2⟩ <;> omega)
    · rw [p2_placement_bit _ hq]
      exact decide_eq_true (by rcases placementIndex_cases q with ⟨q1, q2⟩ | ⟨q1, q2⟩ <;> omega)
  · rw [decide_eq_false h16, if_neg Bool.false_ne_true]
    apply firstSetBit_free _ _ _ hq _ hfree
    · intro i hi hm
      rw [p1_placement_bit i (by omega)] at hm
      have := of_decide_eq_true hm
      rw [h.all_index i (by omega)]
      exact decide_eq_true (by
        rcases placementIndex_cases i with ⟨h1, h2⟩ | ⟨h1, h2⟩ <;>
          rcases placementIndex_cases q with ⟨q1, q2⟩ | ⟨q1, q2⟩ <;> omega)
    · rw [p1_placement_bit _ hq]
      exact decide_eq_true (by rcases placementIndex_cases q with ⟨q1, q2⟩ | ⟨q1, q2⟩ <;> omega)

theorem BoardShape.sqOfBit_placementBit {k : Nat} {b : Board} (h : BoardShape k b) (hk : k < 32) :
    sqOfBit b.placementBit = placementSquare k := by
  rw [h.placementBit_eq hk, sqOfBit_sqBit _ (placementSquare_lt k hk)]

theorem sqBit_63 : sqBit 63 = LAST_P1_PLACEMENT_MASK := by decide
theorem sqBit_15 : sqBit 15 = LAST_P2_PLACEMENT_MASK := by decide

theorem BoardShape.last_tests {k : Nat} {b : Board} (h : BoardShape k b) (hk : k < 32) :
    (b.placementBit == LAST_P1_PLACEMENT_MASK) = decide (k = 15) ∧
    (b.placementBit == LAST_P2_PLACEMENT_MASK) = decide (k = 31) := by
  have hq := placementSquare_lt k hk
  rw [h.placementBit_eq hk, ← sqBit_63, ← sqBit_15, sqBit_beq _ _ hq (by decide), sqBit_beq _ _ hq (by decide)]
  exact ⟨decide_eq_decide.mpr (placementSquare_eq_63 k hk), decide_eq_decide.mpr (placementSquare_eq_15 k)⟩

/-- side, move number and phase after placement number `k`, as functions of `k + 1` -/
theorem place_clock {k : Nat} {s : GameState} (h : BoardShape k s.board) (hk : k < 32)
    (ht : s.p1Turn = decide (k < 16)) (p : Piece) :
    (s.place p).p1Turn = decide (k + 1 < 16 ∨ k + 1 = 32) ∧
    (s.place p).moveNo = (if k + 1 = 32 then 2 else 1) ∧
    (s.place p).phase =
      if k + 1 = 32 then .play (PlayPhase.initial (s.place p).hash [(s.place p).hash]) else .place := by
  obtain ⟨h1, h2⟩ := h.last_tests hk
  rw [place_p1Turn, place_phase, place_moveNo, h1, h2, ht]
  simp only [decide_eq_true_eq, show (k + 1 = 32) = (k = 31) from propext (by omega)]
  refine ⟨?_, rfl, trivial⟩
  by_cases h15 : k = 15
  · subst h15; rfl
  · by_cases h31 : k = 31
    · subst h31; rfl
    · rw [if_neg h15, if_neg h31]; exact decide_eq_decide.mpr (by omega)

theorem place_hash_eq {k : Nat} {s : GameState} (h : BoardShape k s.board) (hk : k < 32)
    (p : Piece) : (s.place p).hash =
      zPlacePiece s.hash p (placementSquare k) s.p1Turn (decide (k = 15)) (decide (k = 31)) := by
  show zPlacePiece s.hash p (sqOfBit s.board.placementBit) s.p1Turn
    (s.board.placementBit == LAST_P1_PLACEMENT_MASK) (s.board.placementBit == LAST_P2_PLACEMENT_MASK) = _
  rw [(h.last_tests hk).1, (h.last_tests hk).2, h.sqOfBit_placementBit hk]

theorem pieceSum_add (c d : Piece → Nat) : pieceSum (fun t => c t + d t) = pieceSum c + pieceSum d := by
  simp only [pieceSum]; omega

theorem pieceSum_single (p : Piece) : pieceSum (fun t => if p == t then 1 else 0) = 1 := by
  cases p <;> rfl

theorem pieceSum_count (l : List Piece) : pieceSum (fun t => l.count t) = l.length := by
  induction l with
  | nil => rfl
  | cons a l ih =>
    simp only [List.count_cons]
    rw [pieceSum_add, ih, pieceSum_single, List.length_cons]

theorem add_eq_add_of_le {a a' b b' : Nat} (ha : a ≤ a') (hb : b ≤ b') (h : a + b = a' + b') :
    a = a' ∧ b = b' := by omega

/-- peel off one summand after the other -/
theorem eq_of_le_of_pieceSum_eq {c d : Piece → Nat} (hle : ∀ t, c t ≤ d t)
    (hs : pieceSum c = pieceSum d) : ∀ t, c t = d t := by
  unfold pieceSum at hs
  have le2 := Nat.add_le_add (hle .elephant) (hle .camel)
  have le3 := Nat.add_le_add le2 (hle .horse)
  have le4 := Nat.add_le_add le3 (hle .dog)
  have le5 := Nat.add_le_add le4 (hle .cat)
  obtain ⟨hs, h6⟩ := add_eq_add_of_le le5 (hle _) hs
  obtain ⟨hs, h5⟩ := add_eq_add_of_le le4 (hle _) hs
  obtain ⟨hs, h4⟩ := add_eq_add_of_le le3 (hle _) hs
  obtain ⟨hs, h3⟩ := add_eq_add_of_le le2 (hle _) hs
  obtain ⟨h1, h2⟩ := add_eq_add_of_le (hle _) (hle _) hs
  intro t
  cases t <;> assumption

theorem pieceSum_complement : pieceSum complement = 16 := rfl

/-- the placements made so far by the side that is to move after `ps` (fewer than 32 placements) -/
def moverPlaced (ps : List Piece) : List Piece := if ps.length < 16 then ps else ps.drop 16

theorem moverPlaced_length (ps : List Piece) (hl : ps.length < 32) :
    (moverPlaced ps).length = ps.length % 16 := by
  unfold moverPlaced; split
  · omega
  · rw [List.length_drop]; omega

def setupCells (ps : List Piece) : Spec.Board := fun i =>
  if i < 64 then (ps[placementIndex i]?).map fun t => ⟨decide (placementIndex i < 16), toSpec t⟩ else none

def SetupBoard (ps : List Piece) (b : Board) : Prop := Rep b (setupCells ps)

theorem SetupBoard.wf {ps : List Piece} {b : Board} (h : SetupBoard ps b) : WF b := Rep.wf h

theorem setupCells_nil (i : Nat) : setupCells [] i = none := by unfold setupCells; split <;> rfl

theorem setupCells_lt (ps : List Piece) {i : Nat} (hi : i < 64) :
    setupCells ps i = (ps[placementIndex i]?).map fun t => ⟨decide (placementIndex i < 16), toSpec t⟩ :=
  if_pos hi

theorem SetupBoard.type_bit {ps : List Piece} {b : Board} (h : SetupBoard ps b) (t : Piece) (i : Nat)
    (hi : i < 64) : bit (b.typeBits t) i = decide (ps[placementIndex i]? = some t) := by
  refine (h i (.type t)).trans ?_
  rw [setupCells_lt ps hi]
  cases ps[placementIndex i]? with
  | none => rfl
  | some u => exact (toSpec_beq u t).trans (by simp only [Option.some.injEq])

theorem SetupBoard.all_bit {ps : List Piece} {b : Board} (h : SetupBoard ps b) (i : Nat) (hi : i < 64) :
    bit b.all i = decide (placementIndex i < ps.length) := by
  refine (h i .all).trans ?_
  rw [setupCells_lt ps hi]
  cases e : ps[placementIndex i]? with
  | none => exact (decide_eq_false (Nat.not_lt.mpr (List.getElem?_eq_none_iff.mp e))).symm
  | some u => exact (decide_eq_true (List.getElem?_eq_some_iff.mp e).1).symm

theorem SetupBoard.p1_bit {ps : List Piece} {b : Board} (h : SetupBoard ps b) (i : Nat) (hi : i < 64) :
    bit b.p1 i = decide (placementIndex i < min ps.length 16) := by
  refine (h i .p1).trans ?_
  rw [setupCells_lt ps hi]
  cases e : ps[placementIndex i]? with
  | none =>
    have := List.getElem?_eq_none_iff.mp e
    exact (decide_eq_false (by omega)).symm
  | some u =>
    have := (List.getElem?_eq_some_iff.mp e).1
    exact decide_eq_decide.mpr (by omega)

theorem SetupBoard.shape {ps : List Piece} {b : Board} (h : SetupBoard ps b) : BoardShape ps.length b := by
  refine ⟨fun i hi => ?_, fun i hi => ?_, ?_, fun t u htu => ?_⟩
  · rw [h.all_bit i hi, decide_eq_true_eq, placementIndex_lt_iff hi]
  · rw [h.p1_bit i hi, decide_eq_true_eq, placementIndex_lt_min_iff i]
  · exact h.wf.union
  · apply bb_ext; intro i hi
    rw [bit_and, h.type_bit t i hi, h.type_bit u i hi, bit_zero, ← Bool.decide_and]
    exact decide_eq_false fun ⟨e1, e2⟩ => htu (Option.some.inj (e1.symm.trans e2))

theorem SetupBoard.contents {ps : List Piece} {b : Board} (h : SetupBoard ps b) (j : Nat) (t : Piece)
    (hj : j < 32) : bit (b.typeBits t) (placementSquare j) = decide (ps[j]? = some t) := by
  rw [h.type_bit t _ (placementSquare_lt j hj), placementIndex_square j (by omega)]

theorem SetupBoard.empty : SetupBoard [] Board.empty := by
  intro i π
  rw [setupCells_nil]
  cases π with
  | p1 => exact bit_zero i
  | all => exact bit_zero i
  | type f => cases f <;> exact bit_zero i

theorem setupCells_next (ps : List Piece) (hk : ps.length < 32) :
    setupCells ps (placementSquare ps.length) = none := by
  rw [setupCells_lt _ (placementSquare_lt _ hk), placementIndex_square _ (by omega),
    List.getElem?_eq_none (Nat.le_refl _)]; rfl

theorem setupCells_snoc (ps : List Piece) (p : Piece) (hk : ps.length < 32) :
    setupCells (ps ++ [p]) = fun i =>
      if i = placementSquare ps.length then some ⟨decide (ps.length < 16), toSpec p⟩ else setupCells ps i := by
  funext i
  have hq := placementSquare_lt ps.length hk
  by_cases hi : i < 64
  · rw [setupCells_lt _ hi]
    by_cases hik : placementIndex i = ps.length
    · rw [if_pos ((placementIndex_eq_iff hi (by omega)).mp hik), hik, List.getElem?_concat_length]; rfl
    · have hsame : (ps ++ [p])[placementIndex i]? = ps[placementIndex i]? := by
        by_cases hlt : placementIndex i < ps.length
        · exact List.getElem?_append_left hlt
        · rw [List.getElem?_eq_none (by rw [List.length_append, List.length_singleton]; omega),
            List.getElem?_eq_none (by omega)]
      rw [if_neg fun e => hik ((placementIndex_eq_iff hi (by omega)).mpr e), hsame, setupCells_lt _ hi]
  · unfold setupCells
    rw [if_neg hi, if_neg (by omega), if_neg hi]

theorem SetupBoard.place {ps : List Piece} {s : GameState} (h : SetupBoard ps s.board)
    (hk : ps.length < 32) (ht : s.p1Turn = decide (ps.length < 16)) (p : Piece) :
    SetupBoard (ps ++ [p]) (s.place p).board := by
  have hq := placementSquare_lt ps.length hk
  unfold SetupBoard
  rw [setupCells_snoc ps p hk, ← ht]
  exact Rep.place h hq (h.shape.placementBit_eq hk) (setupCells_next ps hk) p

def sidePlaced (ps : List Piece) (g : Bool) : List Piece := if g then ps.take 16 else ps.drop 16

theorem sidePlaced_snoc (ps : List Piece) (p : Piece) (g : Bool) :
    sidePlaced (ps ++ [p]) g =
      if g = decide (ps.length < 16) then sidePlaced ps g ++ [p] else sidePlaced ps g := by
  unfold sidePlaced
  by_cases h : ps.length < 16
  · have hl : (ps ++ [p]).length ≤ 16 := by rw [List.length_append, List.length_singleton]; omega
    rw [decide_eq_true h]
    cases g
    · rw [if_neg Bool.false_ne_true, if_neg Bool.false_ne_true, if_neg Bool.false_ne_true,
        List.drop_of_length_le hl, List.drop_of_length_le (by omega)]
    · rw [if_pos rfl, if_pos rfl, if_pos rfl, List.take_of_length_le hl, List.take_of_length_le (by omega)]
  · rw [decide_eq_false h]
    cases g
    · rw [if_neg Bool.false_ne_true, if_neg Bool.false_ne_true, if_pos rfl,
        List.drop_append_of_le_length (by omega)]
    · rw [if_pos rfl, if_pos rfl, if_neg (by decide), List.take_append_of_le_length (by omega)]

/-- by induction on the list: a placement sets one square and appends to one side's list -/
theorem setupCells_count (ps : List Piece) (hl : ps.length ≤ 32) (g : Bool) (t : Piece) :
    cellCount (setupCells ps) ⟨g, toSpec t⟩ = (sidePlaced ps g).count t := by
  rw [cellCount_eq_countOn]
  induction ps using List.snoc_induction with
  | nil =>
    rw [show (sidePlaced [] g).count t = 0 by cases g <;> rfl]
    exact List.countP_eq_zero.mpr fun i _ => by rw [setupCells_nil]; exact Bool.false_ne_true
  | snoc ps p ih =>
    rw [List.length_append, List.length_singleton] at hl
    have hk : ps.length < 32 := hl
    rw [setupCells_snoc ps p hk, countOn_put _ rfl _ _ (placementSquare_lt _ hk) (setupCells_next ps hk),
      ih (by omega), sidePlaced_snoc, Option.some_beq_some, Spec.cell_beq_def, toSpec_beq]
    by_cases hg : g = decide (ps.length < 16)
    · rw [if_pos hg, List.count_append, List.count_singleton, ← hg, beq_self_eq_true, Bool.and_true]
      by_cases e : p = t
      · rw [decide_eq_true e, e, beq_self_eq_true]; rfl
      · rw [decide_eq_false e, beq_false_of_ne e]; rfl
    · rw [if_neg hg, beq_false_of_ne (Ne.symm hg), Bool.and_false]; rfl

theorem SetupBoard.count {ps : List Piece} {b : Board} (h : SetupBoard ps b) (hl : ps.length ≤ 32)
    (g : Bool) (t : Piece) :
    popcount (b.typeBits t &&& b.playerPieceMask g) = (sidePlaced ps g).count t := by
  rw [Rep.popcount_cell h, setupCells_count ps hl]

theorem moverPlaced_eq (ps : List Piece) :
    moverPlaced ps = sidePlaced ps (decide (ps.length < 16)) := by
  unfold moverPlaced sidePlaced
  by_cases h : ps.length < 16
  · rw [if_pos h, if_pos (decide_eq_true h), List.take_of_length_le (by omega)]
  · rw [if_neg h, if_neg (by simpa using h)]

theorem SetupBoard.moverCount {ps : List Piece} {s : GameState} (h : SetupBoard ps s.board)
    (hl : ps.length < 32) (ht : s.p1Turn = decide (ps.length < 16)) (t : Piece) :
    moverCount s t = (moverPlaced ps).count t := by
  show popcount (s.board.typeBits t &&& s.board.playerPieceMask s.p1Turn) = _
  rw [ht, h.count (by omega), moverPlaced_eq ps]

/-- read the list back from the board: placement `j` was the type found on `placementSquare j` -/
theorem SetupBoard.of_shape {k : Nat} {b : Board} (h : BoardShape k b) :
    ∃ ps, ps.length = k ∧ SetupBoard ps b := by
  have hw := h.wf
  obtain ⟨ps, hps⟩ : ∃ ps, ps = (List.range k).map fun j => (typeAt b (placementSquare j)).getD .rabbit :=
    ⟨_, rfl⟩
  refine ⟨ps, by rw [hps]; simp, ?_⟩
  suffices habs : absBoard b = setupCells ps by
    unfold SetupBoard; rw [← habs]; exact hw.rep
  subst hps
  funext i
  by_cases hi : i < 64
  · rw [setupCells_lt _ hi, List.getElem?_map]
    have hall := h.all_index i hi
    rw [hw.rep.all_bit] at hall
    rw [absBoard_apply] at hall ⊢
    cases hu : typeAt b i with
    | none =>
      rw [hu] at hall
      have hlt : ¬ placementIndex i < k := fun hlt => by rw [decide_eq_true hlt] at hall; cases hall
      rw [List.getElem?_eq_none (by rw [List.length_range]; omega), Option.map_none, Option.map_none,
        Option.map_none]
    | some u =>
      rw [hu] at hall
      have hlt : placementIndex i < k := of_decide_eq_true hall.symm
      rw [List.getElem?_range hlt, Option.map_some, Option.map_some, placementSquare_index i hi, hu,
        h.p1_index i hi]
      have e : decide (placementIndex i < min k 16) = decide (placementIndex i < 16) :=
        decide_eq_decide.mpr (by omega)
      show some _ = some _
      rw [e]; rfl
  · rw [absBoard_ge b i (by omega)]
    unfold setupCells; rw [if_neg hi]

theorem SetupBoard.setupShape {ps : List Piece} {s : GameState} (hb : SetupBoard ps s.board)
    (hk : ps.length < 32) (ht : s.p1Turn = decide (ps.length < 16)) (hm : s.moveNo = 1)
    (hph : s.phase = .place) (hc : ∀ t, (moverPlaced ps).count t ≤ complement t) :
    SetupShape ps.length s := by
  have hg := hb.moverCount hk ht
  refine ⟨hk, hb.shape, ht, hm, hph, fun t => hg t ▸ hc t, ?_⟩
  show pieceSum (Arimaa.moverCount s) = _
  rw [funext hg, pieceSum_count, moverPlaced_length ps hk]

theorem SetupShape.place {k : Nat} {s : GameState} (h : SetupShape k s) (hk : k + 1 < 32)
    (p : Piece) (hp : moverCount s p < complement p) : SetupShape (k + 1) (s.place p) := by
  -- through the closed form: read the placements `ps` back from the board, append `p` to them
  -- (`SetupBoard.place`), and get the shape back from the counts of `ps ++ [p]`
  obtain ⟨ps, rfl, hb⟩ := SetupBoard.of_shape h.board
  have hlen : (ps ++ [p]).length = ps.length + 1 := by rw [List.length_append, List.length_singleton]
  obtain ⟨ht, hm, hph⟩ := place_clock h.board h.lt h.turn p
  rw [if_neg (by omega)] at hm hph
  have hg := hb.moverCount h.lt h.turn
  rw [← hlen] at hk ⊢
  refine (hb.place h.lt h.turn p).setupShape hk (ht.trans (decide_eq_decide.mpr (by omega))) hm hph
    fun t => ?_
  rw [moverPlaced_eq, sidePlaced_snoc]
  split
  · next e =>
    rw [e, ← moverPlaced_eq ps]
    exact count_snoc_le (fun u => hg u ▸ h.count_le u) (hg p ▸ hp) t
  · next e =>
    -- the move has gone to Silver, who has placed nothing
    have h15 : ps.length = 15 := by
      apply Classical.byContradiction; intro h15
      exact e (by rw [hlen]; exact decide_eq_decide.mpr (by omega))
    rw [hlen, h15]
    show ((ps.drop 16).count t) ≤ _
    rw [List.drop_of_length_le (by omega)]; exact Nat.zero_le _

/-- the order in which `valid_placement` offers piece types -/
def pieceOrder : List Piece := [.elephant, .camel, .horse, .dog, .cat, .rabbit]

theorem mem_pieceOrder (t : Piece) : t ∈ pieceOrder := by cases t <;> decide

theorem placementTable_eq : placementTable = pieceOrder.map (fun t => (t, complement t, t)) := rfl

theorem validPlacement_eq (s : GameState) :
    s.validPlacement =
      (pieceOrder.filter (fun t => decide (moverCount s t < complement t))).map Action.place := by
  unfold GameState.validPlacement
  rw [placementTable_eq, List.filterMap_map, ← filterMap_ite]
  congr 1
  funext t
  show (if moverCount s t < complement t then some (Action.place t) else none) = _
  by_cases hh : moverCount s t < complement t
  · rw [if_pos hh, if_pos (decide_eq_true hh)]
  · rw [if_neg hh, if_neg (by simpa using hh)]

theorem mem_validPlacement (s : GameState) (t : Piece) :
    Action.place t ∈ s.validPlacement ↔ moverCount s t < complement t := by
  rw [validPlacement_eq, List.mem_map]
  constructor
  · rintro ⟨u, hu, he⟩
    cases he
    simpa using (List.mem_filter.mp hu).2
  · intro h
    exact ⟨t, List.mem_filter.mpr ⟨mem_pieceOrder t, by simpa using h⟩, rfl⟩

theorem place_of_mem_noRep (s : GameState) (h : s.phase = .place) (a : Action)
    (ha : a ∈ s.validActionsNoRep) : ∃ p, a = .place p ∧ Action.place p ∈ s.validActions := by
  unfold GameState.validActionsNoRep at ha
  rw [GameState.validActions__place s h] at ha
  obtain ⟨p, rfl⟩ := GameState.eq_place_of_mem_validPlacement s a ha
  exact ⟨p, rfl, by rw [validActions_eq_validPlacement s h]; exact ha⟩

/-- fewer than sixteen pieces of the mover are on the board, so some type is below its complement -/
theorem SetupShape.exists_offered {k : Nat} {s : GameState} (h : SetupShape k s) :
    ∃ t, moverCount s t < complement t := by
  apply Classical.byContradiction
  intro hn
  have hall : ∀ t, complement t ≤ moverCount s t := fun t =>
    Nat.le_of_not_lt (fun hlt => hn ⟨t, hlt⟩)
  have h1 := hall .elephant; have h2 := hall .camel; have h3 := hall .horse
  have h4 := hall .dog; have h5 := hall .cat; have h6 := hall .rabbit
  have hs := h.count_sum
  simp only [complement] at h1 h2 h3 h4 h5 h6
  omega

/-- States reached from `GameState::initial()` by taking offered placement actions, together with
the list of piece types placed so far (oldest first). -/
inductive SetupRun : List Piece → GameState → Prop
  | init : SetupRun [] GameState.initial
  | step {ps : List Piece} {s : GameState} {p : Piece} :
      SetupRun ps s → Action.place p ∈ s.validActions →
      SetupRun (ps ++ [p]) (s.takeAction (.place p))

/-- The one induction along a run.  It does not pass through `SetupShape` (which has `k < 32`), so the
thirty-second placement is no special case. -/
theorem setupRun_closed {ps : List Piece} {s : GameState} (hr : SetupRun ps s) :
    ps.length ≤ 32 ∧ SetupBoard ps s.board ∧
    s.p1Turn = decide (ps.length < 16 ∨ ps.length = 32) ∧
    s.moveNo = (if ps.length = 32 then 2 else 1) ∧
    s.phase = (if ps.length = 32 then .play (PlayPhase.initial s.hash [s.hash]) else .place) ∧
    ∀ g t, (sidePlaced ps g).count t ≤ complement t := by
  induction hr with
  | init => exact ⟨Nat.zero_le _, SetupBoard.empty, rfl, rfl, rfl, fun g t => by cases g <;> exact Nat.zero_le _⟩
  | @step ps s p hr hv ih =>
    obtain ⟨hle, hb, ht, _, hph, hc⟩ := ih
    -- a placement was offered, so play has not begun
    have hk : ps.length < 32 := by
      apply Nat.lt_of_le_of_ne hle
      intro h32
      rw [if_pos h32] at hph
      exact validActions_play_notPlace s _ hph true p hv
    have ht' : s.p1Turn = decide (ps.length < 16) := ht.trans (decide_eq_decide.mpr (by omega))
    rw [if_neg (by omega)] at hph
    rw [validActions_eq_validPlacement s hph, mem_validPlacement, hb.moverCount hk ht', moverPlaced_eq ps] at hv
    obtain ⟨hturn, hm, hp⟩ := place_clock hb.shape hk ht' p
    rw [List.length_append, List.length_singleton]
    refine ⟨hk, hb.place hk ht' p, hturn, hm, hp, fun g t => ?_⟩
    rw [sidePlaced_snoc]
    split
    · next e => subst e; exact count_snoc_le (hc _) hv t
    · exact hc g t

theorem setupRun_length_le {ps : List Piece} {s : GameState} (hr : SetupRun ps s) : ps.length ≤ 32 :=
  (setupRun_closed hr).1

theorem setupRun_board {ps : List Piece} {s : GameState} (hr : SetupRun ps s) : SetupBoard ps s.board :=
  (setupRun_closed hr).2.1

/-- the placements fill the two home ranks of each side: the four middle ranks stay empty -/
theorem setupRun_middle_empty {ps : List Piece} {s : GameState} (hr : SetupRun ps s) {k : Nat} (h16 : 16 ≤ k)
    (h48 : k < 48) : absBoard s.board k = none := by
  have := setupRun_length_le hr
  rw [(setupRun_board hr).abs, setupCells_lt ps (by omega), show placementIndex k = k + 16 from if_neg (by omega),
    List.getElem?_eq_none (by omega)]
  rfl

theorem setupRun_wf {ps : List Piece} {s : GameState} (hr : SetupRun ps s) : WF s.board :=
  (setupRun_board hr).wf

theorem setupRun_cellCount {ps : List Piece} {s : GameState} (hr : SetupRun ps s) (g : Bool) (t : Piece) :
    cellCount (absBoard s.board) ⟨g, toSpec t⟩ = (sidePlaced ps g).count t := by
  rw [Rep.abs (setupRun_board hr)]
  exact setupCells_count ps (setupRun_length_le hr) g t

theorem setupRun_count_le {ps : List Piece} {s : GameState} (hr : SetupRun ps s) (g : Bool) (t : Piece) :
    (sidePlaced ps g).count t ≤ complement t :=
  (setupRun_closed hr).2.2.2.2.2 g t

theorem setupRun_final {ps : List Piece} {s : GameState} (hr : SetupRun ps s) (h32 : ps.length = 32) :
    s.p1Turn = true ∧ s.moveNo = 2 ∧ s.phase = .play (PlayPhase.initial s.hash [s.hash]) := by
  obtain ⟨_, _, ht, hm, hp, _⟩ := setupRun_closed hr
  rw [h32] at ht; rw [if_pos h32] at hm hp
  exact ⟨ht, hm, hp⟩

theorem setupRun_turn {ps : List Piece} {s : GameState} (hr : SetupRun ps s) (hk : ps.length < 32) :
    s.p1Turn = decide (ps.length < 16) := by
  obtain ⟨_, _, ht, _⟩ := setupRun_closed hr
  exact ht.trans (decide_eq_decide.mpr (by omega))

theorem setupRun_moverCount {ps : List Piece} {s : GameState} (hr : SetupRun ps s) (hk : ps.length < 32)
    (t : Piece) : moverCount s t = (moverPlaced ps).count t :=
  (setupRun_board hr).moverCount hk (setupRun_turn hr hk) t

theorem setupRun_shape {ps : List Piece} {s : GameState} (hr : SetupRun ps s) (hk : ps.length < 32) :
    SetupShape ps.length s := by
  obtain ⟨_, hb, _, hm, hp, hc⟩ := setupRun_closed hr
  rw [if_neg (by omega)] at hm hp
  exact hb.setupShape hk (setupRun_turn hr hk) hm hp fun t => moverPlaced_eq ps ▸ hc _ t

theorem count_eq_complement {l : List Piece} (hl : l.length = 16)
    (hle : ∀ t, l.count t ≤ complement t) : ∀ t, l.count t = complement t :=
  eq_of_le_of_pieceSum_eq hle (by rw [pieceSum_count, hl, pieceSum_complement])

theorem setupRun_gold_army {ps : List Piece} {s : GameState} (hr : SetupRun ps s)
    (h16 : 16 ≤ ps.length) : ∀ t, (ps.take 16).count t = complement t :=
  count_eq_complement (by rw [List.length_take]; omega) (setupRun_count_le hr true)

theorem setupRun_silver_army {ps : List Piece} {s : GameState} (hr : SetupRun ps s)
    (h32 : ps.length = 32) : ∀ t, (ps.drop 16).count t = complement t :=
  count_eq_complement (by rw [List.length_drop]; omega) (setupRun_count_le hr false)

theorem setupRun_iff (ps : List Piece) :
    (∃ s, SetupRun ps s) ↔ ps.length ≤ 32 ∧ ∀ g t, (sidePlaced ps g).count t ≤ complement t := by
  refine ⟨fun ⟨s, hr⟩ => ⟨setupRun_length_le hr, setupRun_count_le hr⟩, ?_⟩
  induction ps using List.snoc_induction with
  | nil => exact fun _ => ⟨_, SetupRun.init⟩
  | snoc ps p ih =>
    rw [List.length_append, List.length_singleton]
    rintro ⟨hlen, hc⟩
    have hk : ps.length < 32 := hlen
    -- the counts of `ps` are below those of `ps ++ [p]`, and the mover's count of `p` strictly
    have hc' : ∀ g t, (sidePlaced ps g).count t ≤ complement t := fun g t => by
      have := hc g t
      rw [sidePlaced_snoc] at this
      split at this
      · rw [List.count_append] at this; omega
      · exact this
    obtain ⟨s, hr⟩ := ih ⟨by omega, hc'⟩
    refine ⟨_, SetupRun.step hr ?_⟩
    rw [validActions_eq_validPlacement s (setupRun_shape hr hk).phase, mem_validPlacement,
      setupRun_moverCount hr hk, moverPlaced_eq ps]
    have := hc (decide (ps.length < 16)) p
    rw [sidePlaced_snoc, if_pos rfl, List.count_append, List.count_singleton_self] at this
    omega

/-- the witness that runs of thirty-two offered placements exist -/
def exampleOrder : List Piece :=
  [.rabbit, .rabbit, .rabbit, .rabbit, .rabbit, .rabbit, .rabbit, .rabbit,
   .cat, .dog, .horse, .camel, .elephant, .horse, .dog, .cat,
   .elephant, .camel, .horse, .horse, .dog, .dog, .cat, .cat,
   .rabbit, .rabbit, .rabbit, .rabbit, .rabbit, .rabbit, .rabbit, .rabbit]

theorem exampleOrder_run : ∃ s, SetupRun exampleOrder s ∧ exampleOrder.length = 32 := by
  obtain ⟨s, hs⟩ := (setupRun_iff exampleOrder).mpr ⟨by decide, fun g t => by cases g <;> cases t <;> decide⟩
  exact ⟨s, hs, rfl⟩

def MaterialOk (b : Spec.Board) : Prop :=
  ∀ g : Bool, cellCount b ⟨g, .elephant⟩ ≤ 1 ∧ cellCount b ⟨g, .camel⟩ ≤ 1 ∧ cellCount b ⟨g, .horse⟩ ≤ 2 ∧
    cellCount b ⟨g, .dog⟩ ≤ 2 ∧ cellCount b ⟨g, .cat⟩ ≤ 2 ∧ cellCount b ⟨g, .rabbit⟩ ≤ 8

theorem materialOk_iff (b : Spec.Board) :
    MaterialOk b ↔ ∀ (g : Bool) (t : Piece), cellCount b ⟨g, toSpec t⟩ ≤ complement t := by
  constructor
  · intro h g t
    obtain ⟨h1, h2, h3, h4, h5, h6⟩ := h g
    cases t <;> assumption
  · intro h g
    exact ⟨h g .elephant, h g .camel, h g .horse, h g .dog, h g .cat, h g .rabbit⟩

theorem materialOk_of_le (b b' : Spec.Board) (h : ∀ c, cellCount b' c ≤ cellCount b c) (hb : MaterialOk b) :
    MaterialOk b' := by
  intro g
  obtain ⟨h1, h2, h3, h4, h5, h6⟩ := hb g
  exact ⟨Nat.le_trans (h _) h1, Nat.le_trans (h _) h2, Nat.le_trans (h _) h3, Nat.le_trans (h _) h4,
    Nat.le_trans (h _) h5, Nat.le_trans (h _) h6⟩

end Arimaa
