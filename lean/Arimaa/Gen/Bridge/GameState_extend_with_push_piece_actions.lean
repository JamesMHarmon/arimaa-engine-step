-- GENERATED by /verif/tools/gen.py -- do not edit.  Bridge from the current text of `GameState::extend_with_push_piece_actions` to the baseline text.
import Arimaa.Gen.Rs
import Arimaa.Gen.RsBase
import Arimaa.Gen.BridgeLadder
import Arimaa.Gen.Bridge.GameState_as_play_phase
import Arimaa.Gen.Bridge.GameState_curr_player_non_frozen_pieces
import Arimaa.Gen.Bridge.GameState_opponent_piece_mask
import Arimaa.Gen.Bridge.GameState_threatened_pieces
import Arimaa.Gen.Bridge.PlayPhase_step
import Arimaa.Gen.Bridge.PushPullState_can_push
import Arimaa.Gen.Bridge.can_move_in_direction

namespace Arimaa.Gen.Bridge
open Arimaa Arimaa.Gen Arimaa.Rt

set_option maxHeartbeats 1000000 in
theorem bridge_GameState_extend_with_push_piece_actions : @Rs.GameState_extend_with_push_piece_actions = @RsBase.GameState_extend_with_push_piece_actions := by
  funext a0 a1 a2
  rs_ladder [Rs.GameState_extend_with_push_piece_actions, RsBase.GameState_extend_with_push_piece_actions, bridge_GameState_as_play_phase, bridge_GameState_curr_player_non_frozen_pieces, bridge_GameState_opponent_piece_mask, bridge_GameState_threatened_pieces, bridge_PlayPhase_step, bridge_PushPullState_can_push, bridge_can_move_in_direction] [RsBase.GameState_as_play_phase, RsBase.GameState_curr_player_non_frozen_pieces, RsBase.GameState_opponent_piece_mask, RsBase.GameState_threatened_pieces, RsBase.PlayPhase_step, RsBase.PushPullState_can_push, RsBase.can_move_in_direction] (skip) [Rs.GameState_extend_with_push_piece_actions, RsBase.GameState_extend_with_push_piece_actions, Rs.GameState_as_play_phase, Rs.GameState_curr_player_non_frozen_pieces, Rs.GameState_opponent_piece_mask, Rs.GameState_threatened_pieces, Rs.PlayPhase_step, Rs.PushPullState_can_push, Rs.can_move_in_direction, Rs.influenced_squares, Rs.shift_pieces_in_opp_direction, Rs.supported_pieces, RsBase.GameState_as_play_phase, RsBase.GameState_curr_player_non_frozen_pieces, RsBase.GameState_opponent_piece_mask, RsBase.GameState_threatened_pieces, RsBase.PlayPhase_step, RsBase.PushPullState_can_push, RsBase.can_move_in_direction, RsBase.influenced_squares, RsBase.shift_pieces_in_opp_direction, RsBase.supported_pieces]

end Arimaa.Gen.Bridge
