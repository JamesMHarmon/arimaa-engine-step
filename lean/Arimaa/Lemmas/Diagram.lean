import Arimaa.Lemmas.Lexical

/-!
`parseState` as one equation: the header gives move number and side (`headerOf`), the grid gives the board
(`gridOf`), either can reject, and the result is the state `diagramState` builds from the three.
-/
namespace Arimaa

/-- `none` = rejected (a move number that does not parse); a text without header is move 2 with Gold to move -/
def headerOf (t : List Char) : Option (Nat × Bool) :=
  match matchHeader ((splitBar t).headD []) with
  | some (ds, c) => (parseUsize ds).map fun n => (n, c != 's' && c != 'b')
  | none => some (2, true)

def Cells.board (cs : Cells) : Board := Board.new cs.p1 cs.e cs.m cs.h cs.d cs.c cs.r

def gridOf (t : List Char) : Option Board :=
  (parseRows (oddElems (splitBar t)) 0 {}).map Cells.board

/-- the state a diagram denotes: start of a turn (step 0, nothing pending), the from-scratch hash
of board and side as `hash`, `initHash` and only history entry -/
def diagramState (n : Nat) (g : Bool) (b : Board) : GameState :=
  { p1Turn := g, moveNo := n, board := b, hash := zFromPieceBoard b g 0,
    phase := .play (PlayPhase.initial (zFromPieceBoard b g 0) [zFromPieceBoard b g 0]) }

theorem parseState_eq (t : List Char) :
    parseState t =
      match headerOf t, gridOf t with
      | some (n, g), some b => .ok (diagramState n g b)
      | _, _ => .err := by
  unfold parseState headerOf gridOf
  dsimp only
  cases matchHeader ((splitBar t).headD []) with
  | none => cases parseRows (oddElems (splitBar t)) 0 {} <;> rfl
  | some dc =>
    obtain ⟨ds, c⟩ := dc
    dsimp only
    cases parseUsize ds with
    | none => rfl
    | some n => cases parseRows (oddElems (splitBar t)) 0 {} <;> rfl

theorem parseState_ok_iff (t : List Char) (s : GameState) :
    parseState t = .ok s ↔
      ∃ n g b, headerOf t = some (n, g) ∧ gridOf t = some b ∧ s = diagramState n g b := by
  rw [parseState_eq]
  cases headerOf t with
  | none => exact ⟨nofun, fun ⟨_, _, _, h, _⟩ => nomatch h⟩
  | some ng =>
    obtain ⟨n, g⟩ := ng
    cases gridOf t with
    | none => exact ⟨nofun, fun ⟨_, _, _, _, h, _⟩ => nomatch h⟩
    | some b =>
      exact ⟨fun h => ⟨n, g, b, rfl, rfl, (Outcome.ok.inj h).symm⟩,
        fun ⟨_, _, _, h1, h2, h3⟩ => by cases h1; cases h2; rw [h3]⟩

theorem parseState_eq_diagramState (t : List Char) (s : GameState) (h : parseState t = .ok s) :
    s = diagramState s.moveNo s.p1Turn s.board := by
  obtain ⟨n, g, b, _, _, rfl⟩ := (parseState_ok_iff t s).mp h
  rfl

theorem parseState_hash_phase (t : List Char) (s : GameState) (h : parseState t = .ok s) :
    s.hash = zFromPieceBoard s.board s.p1Turn 0 ∧
      s.phase = .play (PlayPhase.initial s.hash [s.hash]) := by
  rw [parseState_eq_diagramState t s h]
  exact ⟨rfl, rfl⟩

theorem headerOf_match {t ds : List Char} {c : Char} (h : HeaderMatch (t.takeWhile (· != '|')) ds c) :
    headerOf t = (parseUsize ds).map fun n => (n, c != 's' && c != 'b') := by
  rw [headerOf, splitBar_head, matchHeader_of_match _ ds c h]

theorem headerOf_no_match {t : List Char} (h : ¬ ∃ ds c, HeaderMatch (t.takeWhile (· != '|')) ds c) :
    headerOf t = some (2, true) := by
  rw [headerOf, splitBar_head, (matchHeader_none_iff _).mpr h]

theorem headerOf_eq_none_iff (t : List Char) :
    headerOf t = none ↔ ∃ ds c, HeaderMatch (t.takeWhile (· != '|')) ds c ∧ parseUsize ds = none := by
  constructor
  · intro hn
    by_cases hm : ∃ ds c, HeaderMatch (t.takeWhile (· != '|')) ds c
    · obtain ⟨ds, c, hm⟩ := hm
      rw [headerOf_match hm, Option.map_eq_none_iff] at hn
      exact ⟨ds, c, hm, hn⟩
    · rw [headerOf_no_match hm] at hn
      cases hn
  · rintro ⟨ds, c, hm, hbad⟩
    rw [headerOf_match hm, hbad]
    rfl

end Arimaa
