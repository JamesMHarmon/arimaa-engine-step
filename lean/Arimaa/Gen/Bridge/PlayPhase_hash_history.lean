-- GENERATED by /verif/tools/gen.py -- do not edit.  Bridge from the current text of `PlayPhase::hash_history` to the baseline text.
import Arimaa.Gen.Rs
import Arimaa.Gen.RsBase
import Arimaa.Gen.BridgeLadder

namespace Arimaa.Gen.Bridge
open Arimaa Arimaa.Gen Arimaa.Rt

set_option maxHeartbeats 1000000 in
theorem bridge_PlayPhase_hash_history : @Rs.PlayPhase_hash_history = @RsBase.PlayPhase_hash_history := by
  funext a0
  rs_ladder [Rs.PlayPhase_hash_history, RsBase.PlayPhase_hash_history] [] (skip) [Rs.PlayPhase_hash_history, RsBase.PlayPhase_hash_history]

end Arimaa.Gen.Bridge
