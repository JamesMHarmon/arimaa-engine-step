-- GENERATED by /verif/tools/gen.py -- do not edit.  Bridge from the current text of `Zobrist::from_piece_board` to the baseline text.
import Arimaa.Gen.Rs
import Arimaa.Gen.RsBase
import Arimaa.Gen.BridgeLadder
import Arimaa.Gen.Bridge.PieceBoardState_bits_for_piece
import Arimaa.Gen.Bridge.piece_value

namespace Arimaa.Gen.Bridge
open Arimaa Arimaa.Gen Arimaa.Rt

set_option maxHeartbeats 1000000 in
theorem bridge_Zobrist_from_piece_board : @Rs.Zobrist_from_piece_board = @RsBase.Zobrist_from_piece_board := by
  funext a0 a1 a2
  rs_ladder [Rs.Zobrist_from_piece_board, RsBase.Zobrist_from_piece_board, bridge_PieceBoardState_bits_for_piece, bridge_piece_value] [RsBase.PieceBoardState_bits_for_piece, RsBase.piece_value] (cases a1) [Rs.Zobrist_from_piece_board, RsBase.Zobrist_from_piece_board, Rs.PieceBoardState_bits_by_piece_type, Rs.PieceBoardState_bits_for_piece, Rs.piece_value, RsBase.PieceBoardState_bits_by_piece_type, RsBase.PieceBoardState_bits_for_piece, RsBase.piece_value]

end Arimaa.Gen.Bridge
