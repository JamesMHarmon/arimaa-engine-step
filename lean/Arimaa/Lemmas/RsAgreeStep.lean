import Arimaa.Lemmas.RsAgreeHash
import Arimaa.Gen.Bridge.GameState_take_action

namespace Arimaa.RsAgree
open Arimaa.Gen.RsBase Arimaa.Rt

theorem pass_eq (s : GameState) : GameState_pass s = Res.guard s.passPanics s.pass := by
  unfold GameState_pass GameState.passPanics GameState.pass
  cases hp : s.phase with
  | place => simp only [current_step_place s hp, Res.bind_panic]; rfl
  | play pp =>
    simp only [current_step_play s pp hp, Res.bind_ok, zobrist_pass, unwrap_play_phase s pp hp, addUsize_eq,
      play_phase_initial, bind_guard_guard, bind_guard_ok]
    simp only [Bool.cond_eq_ite]

theorem move_piece_eq (s : GameState) (sq : Nat) (d : Dir) :
    GameState_move_piece s sq d = Res.guard (s.movePiecePanics sq d) (s.movePiece sq d) := by
  unfold GameState_move_piece GameState.movePiecePanics GameState.movePiece
  cases hp : s.phase with
  | place => simp only [unwrap_play_phase_place s hp, Res.bind_panic]; rfl
  | play pp =>
    simp only [unwrap_play_phase s pp hp, current_step_play s pp hp, Res.bind_ok, board_take_action_move,
      ble_eq_decide, Board.takeActionPanics, Board.movePiecePanics, addUsize_eq, zobrist_move_piece _ s pp hp,
      next_piece_boards_this_move s pp hp, next_push_pull_state s pp hp, play_phase_initial, bind_guard_guard,
      bind_guard_ok, cond_ok_guard]
    simp only [Bool.cond_eq_ite, ge_iff_le]
    apply guard_congr
    -- the code evaluates `curr_step + 1` a second time (in `next_piece_boards_this_move`); the guard lists it once
    · cases decide (3 ≤ pp.step) <;> cases usizeAddPanics pp.step 1 <;> simp [Bool.or_assoc]
    · intro _; rfl

theorem place_eq (s : GameState) (p : Piece) : GameState_place s p = Res.guard (s.placePanics p) (s.place p) := by
  unfold GameState_place GameState.placePanics GameState.place
  simp only [game_state_piece_board, placement_bit, zobrist_place_piece, piece_board_new, play_phase_initial,
    bind_guard_guard, bind_guard_ok, Bool.cond_eq_ite]
  cases p <;> rfl

theorem take_action_eq (s : GameState) (a : Action) :
    GameState_take_action s a = Res.guard (s.takeActionPanics a) (s.takeAction a) := by
  cases a with
  | pass => exact pass_eq s
  | place p => exact place_eq s p
  | move sq d => exact move_piece_eq s sq d

end Arimaa.RsAgree

namespace Arimaa.Code
open Arimaa.Gen.Rs Arimaa.Rt Arimaa.Gen.Bridge

theorem take_action (s : GameState) (a : Action) :
    GameState_take_action s a = Res.guard (s.takeActionPanics a) (s.takeAction a) :=
  bridge_GameState_take_action ▸ RsAgree.take_action_eq s a

theorem successor {s r : GameState} {a : Action} (h : GameState_take_action s a = .ok r) : r = s.takeAction a :=
  RsAgree.eq_of_guard_eq_ok (take_action s a) h

end Arimaa.Code
