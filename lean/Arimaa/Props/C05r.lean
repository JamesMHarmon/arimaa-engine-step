import Arimaa.Props.C05
import Arimaa.Props.C05c
import Arimaa.Lemmas.RsAgreeOffered
import Arimaa.Lemmas.RsAgreeStep
import Arimaa.Lemmas.RsAgreeGen
import Arimaa.Gen.Bridge.GameState_is_passing_like_action

/-!
C05 for the regenerated code (`Gen/Rs.lean`, written from the Rust text on every run).  `C05_code_agrees` lists, as one
obligation, the agreements with the hand model of the functions C05 speaks of, so that a change of the Rust text that
alters behaviour breaks an obligation here without a test having to find the input; a corollary whose hypothesis names
a list the code returned also cites `Code.rule_only` / `Code.offered`.  (written by tools/mkrprops.py)
-/
namespace Arimaa
open GameState Arimaa.Gen.Rs Arimaa.Rt Arimaa.Gen.Bridge

/-- the agreement theorems C05 rests on, about the CURRENT functions, as one obligation -/
theorem C05_code_agrees :
    (∀ (s : GameState) (cr : Bool), GameState_valid_actions_ s cr = Res.guard (s.validActions_Panics cr) (s.validActions_ cr)) ∧
    (∀ (s : GameState) (a : Action), GameState_take_action s a = Res.guard (s.takeActionPanics a) (s.takeAction a)) ∧
    (∀ (s : GameState) (pp : PlayPhase), s.phase = .play pp → ∀ a : Action, GameState_is_passing_like_action s a = Res.guard (s.isPassingLikeActionPanics pp a) (s.isPassingLikeAction pp a)) ∧
    (∀ (s : GameState) (cr : Bool), GameState_can_pass s cr = Res.guard (s.canPassPanics cr) (s.canPass cr)) :=
  ⟨Code.valid_actions_,
   Code.take_action,
   bridge_GameState_is_passing_like_action ▸ RsAgree.is_passing_like_action_eq,
   Code.can_pass⟩

theorem C05_code_offered (s : GameState) (r : List Action)
    (h : GameState_valid_actions s = .ok r) : r = s.validActions :=
  Code.offered h

/-- a game played THROUGH THE REGENERATED CODE: every action is taken from the list the regenerated
`valid_actions` returned, every successor is the one the regenerated `take_action` returned, no call panicked -/
inductive CodeGame : GameState → List Action → GameState → Prop where
  | nil (s : GameState) : CodeGame s [] s
  | cons {s s' t : GameState} {l : List Action} {a : Action} {as : List Action} :
      GameState_valid_actions s = .ok l → a ∈ l → GameState_take_action s a = .ok s' → CodeGame s' as t →
      CodeGame s (a :: as) t

theorem C05_code_game_is_offered_run {s t : GameState} {as : List Action} (h : CodeGame s as t) :
    Offered s as ∧ t = s.run as := by
  induction h with
  | nil s => exact ⟨trivial, rfl⟩
  | cons hl ha ht _ ih =>
    have h1 := Code.offered hl
    have h2 := Code.successor ht
    subst h1 h2
    exact ⟨⟨ha, ih.1⟩, by rw [run_cons]; exact ih.2⟩

/-- **C05 for the code as it is now, whole games**: in every game played through the regenerated code from a
well-formed start of the play phase, no (board, side to move) combination occurs more than twice among the
starts of turn (exact boards) -/
theorem C05_code_no_third_occurrence (s0 t : GameState) (h0 : StartOk s0) (as : List Action)
    (hg : CodeGame s0 as t) (p : Board × Bool) : (turnStarts s0 as).count p ≤ 2 :=
  C05_no_third_occurrence s0 h0 as (C05_code_game_is_offered_run hg).1 p

/-- the engine side of C20 for the code as it is now: one step or pass of the regenerated `take_action` makes the
hash history at most one node longer (so its length is bounded by the number of turns, and the list operations of
`linked_list.rs`, each of constant stack depth, are applied a bounded number of times per action) -/
theorem C05_code_history_step (s s' : GameState) (pp : PlayPhase) (hph : s.phase = .play pp) (a : Action)
    (hmv : a = .pass ∨ ∃ i d, a = .move i d) (ht : GameState_take_action s a = .ok s') :
    ∃ pp', s'.phase = .play pp' ∧ pp'.hist.length ≤ pp.hist.length + 1 := by
  have h2 := Code.successor ht
  subst h2
  exact C05_history_step s pp hph a hmv

/-- ... and every turn completed in such a game changes the board -/
theorem C05_code_turn_changes_board (s0 t : GameState) (h0 : StartOk s0) (as : List Action) (a : Action)
    (hg : CodeGame s0 (as ++ [a]) t) (hend : endsTurnAt (s0.run as) a = true) :
    t.board ≠ turnStartBoard s0 as := by
  obtain ⟨ho, ht⟩ := C05_code_game_is_offered_run hg
  subst ht
  exact C05_turn_changes_board s0 h0 as a ho hend

end Arimaa
