-- GENERATED by /verif/tools/gen.py -- do not edit.  Bridge from the current text of `GameState::has_move` to the baseline text.
import Arimaa.Gen.Rs
import Arimaa.Gen.RsBase
import Arimaa.Gen.BridgeLadder
import Arimaa.Gen.Bridge.GameState_can_pass
import Arimaa.Gen.Bridge.GameState_extend_with_pull_piece_actions
import Arimaa.Gen.Bridge.GameState_extend_with_push_piece_actions
import Arimaa.Gen.Bridge.GameState_extend_with_valid_curr_player_piece_moves
import Arimaa.Gen.Bridge.GameState_has_non_passing_like_action
import Arimaa.Gen.Bridge.GameState_must_complete_push_actions
import Arimaa.Gen.Bridge.PushPullState_is_must_complete_push

namespace Arimaa.Gen.Bridge
open Arimaa Arimaa.Gen Arimaa.Rt

set_option maxHeartbeats 1000000 in
theorem bridge_GameState_has_move : @Rs.GameState_has_move = @RsBase.GameState_has_move := by
  funext a0 a1
  rs_ladder [Rs.GameState_has_move, RsBase.GameState_has_move, bridge_GameState_can_pass, bridge_GameState_extend_with_pull_piece_actions, bridge_GameState_extend_with_push_piece_actions, bridge_GameState_extend_with_valid_curr_player_piece_moves, bridge_GameState_has_non_passing_like_action, bridge_GameState_must_complete_push_actions, bridge_PushPullState_is_must_complete_push] [RsBase.GameState_can_pass, RsBase.GameState_extend_with_pull_piece_actions, RsBase.GameState_extend_with_push_piece_actions, RsBase.GameState_extend_with_valid_curr_player_piece_moves, RsBase.GameState_has_non_passing_like_action, RsBase.GameState_must_complete_push_actions, RsBase.PushPullState_is_must_complete_push]

end Arimaa.Gen.Bridge
