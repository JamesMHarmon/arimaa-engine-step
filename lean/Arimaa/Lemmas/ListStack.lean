import Arimaa.Impl.ListStack

/-! The frame-stack model of the history list (`Impl/ListStack.lean`), for C20.  Every depth bound rests on `Shape`, an
invariant of the stack that does not look at the heap (`shape_step`), so it holds under every interleaving; termination
rests on what one pass of a loop does (`loop_iteration`, `iter_advance`, `op_returns`); unboundedness on drop glue
descending a uniquely owned chain (`glue_drop_chain`). -/

namespace Arimaa.ListStack

theorem run_add (a b : Nat) (c : Cfg) : run (a + b) c = run b (run a c) := by
  induction a generalizing c with
  | zero => rw [Nat.zero_add]; rfl
  | succ a ih => rw [Nat.succ_add]; exact ih (step c)

theorem run_succ' (k : Nat) (c : Cfg) : run (k + 1) c = step (run k c) := by
  rw [run_add]; rfl

theorem step_finished (c : Cfg) (h : finished c) : step c = c := by
  obtain ⟨hp, st, o⟩ := c
  cases h
  rfl

theorem run_finished (k : Nat) (c : Cfg) (h : finished c) : run k c = c := by
  induction k with
  | zero => rfl
  | succ k ih => rw [run, step_finished c h, ih]

theorem finished_run_add {c : Cfg} {k : Nat} (h : finished (run k c)) (j : Nat) : finished (run (k + j) c) := by
  rw [run_add, run_finished _ _ h]; exact h

theorem height_le_maxHeight (fuel k : Nat) (c : Cfg) (hk : k ≤ fuel) : height (run k c) ≤ maxHeight fuel c := by
  induction fuel generalizing k c with
  | zero => cases Nat.le_zero.1 hk; exact Nat.le_refl _
  | succ f ih =>
    cases k with
    | zero => exact Nat.le_max_left _ _
    | succ k => exact Nat.le_trans (ih k (step c) (Nat.le_of_succ_le_succ hk)) (Nat.le_max_right _ _)

theorem maxHeight_le (fuel : Nat) (c : Cfg) (b : Nat) (h : ∀ k, height (run k c) ≤ b) : maxHeight fuel c ≤ b := by
  induction fuel generalizing c with
  | zero => exact h 0
  | succ f ih => exact Nat.max_le.2 ⟨h 0, ih (step c) fun k => h (k + 1)⟩

/-- frames that return without calling anything (`intoInner` is succeeded by the leaf `dropLink none`, the
drop of the emptied node) -/
inductive Leaf : Frame → Prop
  | intoInner (id : NodeId) : Leaf (.intoInner id)
  | prim (p : Prim) : Leaf (.prim p)
  | iterNext (id : NodeId) : Leaf (.iterNext id)
  | dropNone : Leaf (.dropLink none)

/-- a stack that is one loop or straight-line body; these only call leaves -/
inductive Body : List Frame → Prop
  | listDrop (l : Link) : Body [.listDrop false l]
  | op (todo : List Prim) : Body [.op todo]
  | iter (cur : Link) (t acc : Nat) : Body [.iter cur t acc]

inductive Shape : List Frame → Prop
  | done : Shape []
  | body {st : List Frame} : Body st → Shape st
  | call {l : Frame} {st : List Frame} : Leaf l → Body st → Shape (l :: st)

theorem Body.setLink {st : List Frame} (hb : Body st) (l : Link) : Body (setLink l st) := by
  cases hb <;> constructor

theorem Body.iterAdvance {st : List Frame} (hb : Body st) (l : Link) (e : Nat) : Body (iterAdvance l e st) := by
  cases hb <;> constructor

theorem Shape.length_le {st : List Frame} (hs : Shape st) : st.length ≤ 2 := by
  cases hs with
  | done => exact Nat.zero_le 2
  | body hb => cases hb <;> exact Nat.le_succ 1
  | call _ hb => cases hb <;> exact Nat.le_refl 2

theorem stepCore_prim (h : Heap) (p : Prim) (rest : List Frame) : (stepCore h (.prim p :: rest)).2.1 = rest := by
  cases p with
  | cloneLink l =>
    cases l with
    | none => rfl
    | some id => simp only [stepCore]; split <;> rfl
  | _ => rfl

theorem shape_step (h : Heap) {st : List Frame} (hs : Shape st) : Shape (stepCore h st).2.1 := by
  cases hs with
  | done => exact .done
  | body hb =>
    cases hb with
    | listDrop l =>
      cases l
      · exact .done
      · exact .call (.intoInner _) (.listDrop _)
    | op todo =>
      cases todo
      · exact .done
      · exact .call (.prim _) (.op _)
    | iter cur t acc =>
      cases cur
      · exact .done
      · exact .call (.iterNext _) (.iter ..)
  | call hl hb =>
    cases hl with
    | intoInner id =>
      simp only [stepCore]
      split
      · exact .body (hb.setLink _)
      · split
        · exact .call .dropNone (hb.setLink _)
        · exact .body (hb.setLink _)
    | prim p => rw [stepCore_prim]; exact .body hb
    | iterNext id => simp only [stepCore]; split <;> exact .body (hb.iterAdvance _ _)
    | dropNone => exact .body hb

theorem shape_run (k : Nat) (c : Cfg) (h : Shape c.stack) : Shape (run k c).stack := by
  induction k generalizing c with
  | zero => exact h
  | succ k ih => exact ih _ (shape_step c.heap h)

theorem shape_maxHeight_le (fuel : Nat) (c : Cfg) (h : Shape c.stack) : maxHeight fuel c ≤ 2 :=
  maxHeight_le fuel c 2 fun k => (shape_run k c h).length_le

theorem shape_dropFrame (l : Link) : Shape [dropFrame .loopIntoInner l] := .body (.listDrop l)

theorem shape_opFrame (o : ListOp) : Shape [opFrame o] := by
  cases o <;> exact .body (by constructor)

section

variable {h : Heap} {id : NodeId} {n : Node}

theorem getElem?_setRc_self (hn : h[id]? = some n) (r : Nat) :
    (setRc h id n r)[id]? = some { n with rc := r } :=
  List.getElem?_set_self (List.getElem?_eq_some_iff.1 hn).1

theorem getElem?_setRc_ne {i : NodeId} (n : Node) (r : Nat) (hne : id ≠ i) :
    (setRc h id n r)[i]? = h[i]? :=
  List.getElem?_set_ne hne

theorem lenOf_setRc (hn : h[id]? = some n) (r : Nat) (l : Link) :
    lenOf (setRc h id n r) l = lenOf h l := by
  cases l with
  | none => rfl
  | some j =>
    by_cases hj : id = j
    · subst hj; simp only [lenOf]; rw [getElem?_setRc_self hn, hn]
    · simp only [lenOf]; rw [getElem?_setRc_ne n r hj]

theorem length_setRc (h : Heap) (id : NodeId) (n : Node) (r : Nat) : (setRc h id n r).length = h.length :=
  List.length_set

theorem setRc_setRc (h : Heap) (id : NodeId) (n m : Node) (r r' : Nat) :
    setRc (setRc h id n r) id m r' = setRc h id m r' :=
  List.set_set ..

theorem setRc_self (hn : h[id]? = some n) : setRc h id n n.rc = h := by
  obtain ⟨hlt, rfl⟩ := List.getElem?_eq_some_iff.1 hn
  exact List.set_getElem_self hlt

theorem setRc_append (t : Heap) (n : Node) (r : Nat) (hlt : id < h.length) :
    setRc (h ++ t) id n r = setRc h id n r ++ t :=
  List.set_append_left _ _ hlt

theorem stepCore_dropLink (rest : List Frame) (hn : h[id]? = some n) :
    stepCore h (.dropLink (some id) :: rest) =
      if n.rc = 1 then (setRc h id n 0, .dropLink n.next :: .dropNodeWait id :: rest, none)
      else (setRc h id n (n.rc - 1), rest, none) := by
  simp [stepCore, hn]

theorem stepCore_intoInner (rest : List Frame) (hn : h[id]? = some n) :
    stepCore h (.intoInner id :: rest) =
      if n.rc = 1 then (setRc h id n 0, .dropLink none :: setLink n.next rest, none)
      else (setRc h id n (n.rc - 1), setLink none rest, none) := by
  simp [stepCore, hn]

theorem stepCore_tryUnwrap (rest : List Frame) (hn : h[id]? = some n) :
    stepCore h (.tryUnwrap id :: rest) =
      if n.rc = 1 then (setRc h id n 0, .dropLink none :: setLink n.next rest, none)
      else (h, .dropLink (some id) :: setLink none rest, none) := by
  simp [stepCore, hn]

end

/-- one pass through `while let Some(node) = link { link = match Arc::into_inner(node) { .. } }` -/
theorem loop_iteration (h : Heap) (id : NodeId) (rest : List Frame) (o : List Nat) :
    run 3 ⟨h, .listDrop false (some id) :: rest, o⟩ =
      match h[id]? with
      | some n =>
        if n.rc = 1 then ⟨setRc h id n 0, .listDrop false n.next :: rest, o⟩
        else ⟨setRc h id n (n.rc - 1), rest, o⟩
      | none => ⟨h, rest, o⟩ := by
  -- three steps each way: the loop frame calls `into_inner`; that returns, leaving the emptied node's drop
  -- (`dropLink none`) on top if it got the node, else setting `link` to `None`; then the drop returns, or
  -- the loop frame finds `link = None` and returns
  cases hn : h[id]? with
  | none => simp [run, step, stepCore, hn, setLink]
  | some n => by_cases h1 : n.rc = 1 <;> simp [run, step, stepCore, hn, h1, setLink]

/-- each full iteration of the loop frees one of these nodes -/
def ones (h : Heap) : Nat := h.countP (fun n => n.rc = 1)

theorem ones_le_length (h : Heap) : ones h ≤ h.length := List.countP_le_length

theorem ones_set_zero {h : Heap} {id : NodeId} {n : Node} (hn : h[id]? = some n) (h1 : n.rc = 1) :
    ones (setRc h id n 0) + 1 = ones h := by
  obtain ⟨hlt, rfl⟩ := List.getElem?_eq_some_iff.1 hn
  have : 0 < h.countP (fun n => n.rc = 1) := List.countP_pos_iff.2 ⟨_, List.getElem_mem hlt, decide_eq_true h1⟩
  simp [ones, setRc, List.countP_set hlt, h1]
  omega

/-- `m` is fuel: more than the number of nodes the loop can still free -/
theorem loop_drop_terminates (m : Nat) (h : Heap) (l : Link) (o : List Nat) (hm : ones h < m) :
    ∃ K, K ≤ 3 * m ∧ finished (run K ⟨h, [.listDrop false l], o⟩) := by
  induction m generalizing h l with
  | zero => exact absurd hm (Nat.not_lt_zero _)
  | succ m ih =>
    cases l with
    | none => exact ⟨1, by omega, rfl⟩
    | some id =>
      have hit := loop_iteration h id [] o
      cases hn : h[id]? with
      | none => exact ⟨3, by omega, by rw [hit, hn]; rfl⟩
      | some n =>
        simp only [hn] at hit
        by_cases h1 : n.rc = 1
        · have hones := ones_set_zero hn h1
          obtain ⟨K, hK, hfin⟩ := ih (setRc h id n 0) n.next (by omega)
          exact ⟨3 + K, by omega, by rw [run_add, hit, if_pos h1]; exact hfin⟩
        · exact ⟨3, by omega, by rw [hit, if_neg h1]; rfl⟩

/-- every node built by `append` points to a smaller id -/
inductive UniqueChain (h : Heap) : Link → Nat → Prop
  | nil : UniqueChain h none 0
  | cons {id : NodeId} {n : Nat} {node : Node} :
      h[id]? = some node → node.rc = 1 → (∀ j, node.next = some j → j < id) →
      UniqueChain h node.next n → UniqueChain h (some id) (n + 1)

theorem UniqueChain.frame {h h' : Heap} {l : Link} {n : Nat} (b : Nat)
    (hc : UniqueChain h l n) (hl : ∀ j, l = some j → j < b) (hagree : ∀ i, i < b → h'[i]? = h[i]?) :
    UniqueChain h' l n := by
  induction hc generalizing b with
  | nil => exact .nil
  | @cons id n node hn h1 hlt _ ih =>
    have hid : id < b := hl id rfl
    exact .cons ((hagree id hid).trans hn) h1 hlt (ih id hlt fun i hi => hagree i (Nat.lt_trans hi hid))

theorem UniqueChain.setRc_head {h : Heap} {id : NodeId} {node : Node} {n : Nat} (hc : UniqueChain h node.next n)
    (hlt : ∀ j, node.next = some j → j < id) (r : Nat) : UniqueChain (setRc h id node r) node.next n :=
  hc.frame id hlt fun _ hi => getElem?_setRc_ne node r (Nat.ne_of_gt hi)

/-- Drop glue on a uniquely owned `n`-node chain, called from any stack `rest`: one more frame per node on
the way down (`n + 1` above `rest` after `n` steps), and it returns to `rest` after `2 n + 1` steps. -/
theorem glue_drop_chain {h : Heap} {l : Link} {n : Nat} (hc : UniqueChain h l n) (rest : List Frame) (o : List Nat) :
    height (run n ⟨h, .dropLink l :: rest, o⟩) = n + 1 + rest.length ∧
    ∃ h', run (2 * n + 1) ⟨h, .dropLink l :: rest, o⟩ = ⟨h', rest, o⟩ := by
  induction n generalizing h l rest with
  | zero =>
    cases hc
    exact ⟨by simp [run, height, Nat.add_comm], h, rfl⟩
  | succ n ih =>
    cases hc with
    | @cons id _ node hn h1 hlt hc' =>
      obtain ⟨hh, h', hr⟩ := ih (hc'.setRc_head hlt 0)
        (.dropNodeWait id :: rest)
      have s : step ⟨h, .dropLink (some id) :: rest, o⟩ =
          ⟨setRc h id node 0, .dropLink node.next :: .dropNodeWait id :: rest, o⟩ := by
        simp [step, stepCore_dropLink rest hn, h1]
      refine ⟨?_, h', ?_⟩
      · rw [run, s, hh, List.length_cons]; omega
      -- the first step pushes (`s`), the last pops `dropNodeWait id`; the `2 * n + 1` between are `hr`
      · rw [show 2 * (n + 1) + 1 = 2 * n + 1 + 1 + 1 by omega, run_succ', run, s, hr]; rfl

theorem op_returns (todo : List Prim) (h : Heap) (rest : List Frame) (o : List Nat) :
    (run (2 * todo.length + 1) ⟨h, .op todo :: rest, o⟩).stack = rest := by
  induction todo generalizing h o with
  | nil => rfl
  | cons p ps ih =>
    change (run (2 * ps.length + 1) ⟨_, (stepCore h (.prim p :: .op ps :: rest)).2.1, _⟩).stack = rest
    rw [stepCore_prim]
    exact ih ..

theorem straight_ops_terminate (h : Heap) (o : ListOp) (hno : ∀ l t, o ≠ .iterCount l t) :
    finished (run 7 (opCfg h o)) := by
  -- `op_returns`: `2 * k + 1` steps for a body with `k` leaf calls; the last argument is what is left of 7
  cases o with
  | new => exact finished_run_add (k := 1) (op_returns [] h [] []) 6
  | append l x => exact op_returns [_, _, _] h [] []
  | clone l => exact finished_run_add (k := 3) (op_returns [_] h [] []) 4
  | len l => exact finished_run_add (k := 3) (op_returns [_] h [] []) 4
  | iterCount l t => exact absurd rfl (hno l t)

/-- true of every heap built by `append`, which allocates fresh ids -/
def Ordered (h : Heap) : Prop := ∀ (id : NodeId) (n : Node), h[id]? = some n → ∀ j, n.next = some j → j < id

theorem iter_advance {h : Heap} {id : NodeId} {n : Node} (t acc : Nat) (rest : List Frame) (o : List Nat)
    (hn : h[id]? = some n) :
    run 2 ⟨h, .iter (some id) t acc :: rest, o⟩ =
      ⟨h, .iter n.next t (if n.elem = t then acc + 1 else acc) :: rest, o⟩ := by
  simp [run, step, stepCore, hn, iterAdvance]

theorem iter_terminates (h : Heap) (ho : Ordered h) (t : Nat) (b : Nat) (l : Link) (acc : Nat) (o : List Nat)
    (hl : ∀ j, l = some j → j < b) : ∃ K, K ≤ 2 * b + 1 ∧ finished (run K ⟨h, [.iter l t acc], o⟩) := by
  induction b generalizing l acc with
  | zero =>
    cases l with
    | none => exact ⟨1, by omega, rfl⟩
    | some id => exact absurd (hl id rfl) (Nat.not_lt_zero _)
  | succ b ih =>
    cases l with
    | none => exact ⟨1, by omega, rfl⟩
    | some id =>
      cases hn : h[id]? with
      | none => exact ⟨3, by omega, by simp [run, step, stepCore, hn, iterAdvance, finished]⟩
      | some n =>
        obtain ⟨K, hK, hfin⟩ := ih n.next (if n.elem = t then acc + 1 else acc)
          fun j hj => Nat.lt_of_lt_of_le (ho id n hn j hj) (Nat.le_of_lt_succ (hl id rfl))
        exact ⟨2 + K, by omega, by rw [run_add, iter_advance t acc [] o hn]; exact hfin⟩

/-- `append` (7 steps: three leaf calls, `op_returns`) then `drop` of the old handle (one pass of the loop, 3 steps):
the heap has gained the new node and is otherwise as before, and the drop has returned -/
theorem append_then_drop_old (h : Heap) (l : Link) (x : Nat)
    (hl : ∀ id, l = some id → ∃ n, h[id]? = some n ∧ 1 ≤ n.rc) :
    run 3 (dropCfg .loopIntoInner (run 7 (opCfg h (.append l x))).heap l) =
      ⟨h ++ [{ elem := x, next := l, len := lenOf h l + 1, rc := 1 }], [], []⟩ := by
  cases l with
  | none => rfl
  | some id =>
    obtain ⟨n, hn, hrc⟩ := hl id rfl
    have hlt : id < (setRc h id n (n.rc + 1)).length := by
      rw [length_setRc]; exact (List.getElem?_eq_some_iff.1 hn).1
    -- `append` has cloned the old handle, so the loop that drops it finds the head shared (`hget`, count
    -- at least 2), and its one decrement undoes the clone (`hback`)
    have hget (t : Heap) : (setRc h id n (n.rc + 1) ++ t)[id]? = some { n with rc := n.rc + 1 } :=
      (List.getElem?_append_left hlt).trans (getElem?_setRc_self hn _)
    have hback (t : Heap) : setRc (setRc h id n (n.rc + 1) ++ t) id { n with rc := n.rc + 1 } n.rc = h ++ t := by
      rw [setRc_append _ _ _ hlt, setRc_setRc]; exact congrArg (· ++ t) (setRc_self hn)
    have h1 : n.rc + 1 ≠ 1 := Nat.succ_ne_succ_iff.2 (Nat.ne_of_gt hrc)
    -- (`Nat.add_eq_right` would rewrite the test `n.rc + 1 = 1` before `h1` can decide it)
    simp [opCfg, opFrame, dropCfg, dropFrame, run, step, stepCore, hn, lenOf_setRc hn, length_setRc, hget, h1,
      -Nat.add_eq_right, setLink, hback]

theorem length_ownedChain (n : Nat) : (ownedChain n).length = n := by
  simp [ownedChain]

theorem ownedChain_getElem? (N k : Nat) (hk : k < N) : (ownedChain N)[k]? = some (ownedNode k) := by
  simp [ownedChain, hk]

theorem ownedHead_lt (n : Nat) (j : NodeId) (hj : ownedHead n = some j) : j < n := by
  cases n with
  | zero => cases hj
  | succ n => cases hj; exact Nat.lt_succ_self n

theorem lenOf_ownedChain (n : Nat) : lenOf (ownedChain n) (ownedHead n) = n := by
  cases n with
  | zero => rfl
  | succ n => simp [lenOf, ownedHead, ownedChain_getElem?, ownedNode]

theorem ownedNodes_unique (h : Heap) (k : Nat) (hk : ∀ i, i < k → h[i]? = some (ownedNode i)) :
    UniqueChain h (ownedHead k) k := by
  induction k with
  | zero => exact .nil
  | succ k ih =>
    exact .cons (hk k (Nat.lt_succ_self k)) rfl (ownedHead_lt k) (ih fun i hi => hk i (Nat.lt_succ_of_lt hi))

theorem ordered_ownedChain (n : Nat) : Ordered (ownedChain n) := by
  intro id node hn j hj
  have hlt : id < n := length_ownedChain n ▸ (List.getElem?_eq_some_iff.1 hn).1
  cases (ownedChain_getElem? n id hlt).symm.trans hn
  exact ownedHead_lt id j hj

theorem ownedChain_succ_append (n : Nat) : ownedChain (n + 1) = ownedChain n ++ [ownedNode n] := by
  simp [ownedChain, List.range_succ]

/-- the heap `ownedChain (n+1)` is what the model's own `append` followed by `drop` of the previous
handle (loop variant) produces from `ownedChain n` -/
theorem ownedChain_succ_eq (n : Nat) :
    (run 4 (dropCfg .loopIntoInner (run 7 (opCfg (ownedChain n) (.append (ownedHead n) n))).heap (ownedHead n))).heap
      = ownedChain (n + 1) := by
  -- the drop has returned after 3 steps, a 4th changes nothing
  rw [run_succ' 3, append_then_drop_old (ownedChain n) (ownedHead n) n fun id hid =>
    ⟨ownedNode id, ownedChain_getElem? _ _ (ownedHead_lt n id hid), Nat.le_refl 1⟩,
    lenOf_ownedChain, ownedChain_succ_append]
  rfl

theorem cstep_eq (s : Conc) (t : Nat) (st : List Frame) (hst : s.stacks[t]? = some st) :
    cstep s t = ⟨(stepCore s.heap st).1, s.stacks.set t (stepCore s.heap st).2.1⟩ := by
  simp [cstep, hst]

theorem crun_append (a b : List Nat) : ∀ s : Conc, crun s (a ++ b) = crun (crun s a) b := by
  induction a with
  | nil => intro s; rfl
  | cons t ts ih => intro s; exact ih _

/-- the values returned (`o`) play no part -/
theorem crun_replicate (k : Nat) : ∀ (s : Conc) (t : Nat) (st : List Frame) (o : List Nat), s.stacks[t]? = some st →
    crun s (List.replicate k t) =
      { heap := (run k ⟨s.heap, st, o⟩).heap, stacks := s.stacks.set t (run k ⟨s.heap, st, o⟩).stack } := by
  induction k with
  | zero =>
    intro s t st o hst
    obtain ⟨hlt, rfl⟩ := List.getElem?_eq_some_iff.1 hst
    simp [crun, run]
  | succ k ih =>
    intro s t st o hst
    have hlt : t < s.stacks.length := (List.getElem?_eq_some_iff.1 hst).1
    rw [List.replicate_succ, crun, cstep_eq s t st hst,
      ih _ t _ ((stepCore s.heap st).2.2.toList ++ o) (List.getElem?_set_self hlt), List.set_set]
    rfl

theorem shape_cstep (s : Conc) (u t : Nat) (hs : ∀ st, s.stacks[t]? = some st → Shape st) :
    ∀ st, (cstep s u).stacks[t]? = some st → Shape st := by
  unfold cstep
  split
  · exact hs
  · next stu hu =>
    intro st hst
    by_cases hut : u = t
    · subst hut
      cases (List.getElem?_set_self (List.getElem?_eq_some_iff.1 hu).1).symm.trans hst
      exact shape_step s.heap (hs stu hu)
    · exact hs st ((List.getElem?_set_ne hut).symm.trans hst)

theorem shape_crun (sched : List Nat) (t : Nat) : ∀ s : Conc, (∀ st, s.stacks[t]? = some st → Shape st) →
    ∀ st, (crun s sched).stacks[t]? = some st → Shape st := by
  induction sched with
  | nil => exact fun s hs => hs
  | cons u us ih => exact fun s hs => ih _ (shape_cstep s u t hs)

theorem shape_cheight_le (s : Conc) (t : Nat) (hs : ∀ st, s.stacks[t]? = some st → Shape st) : cheight s t ≤ 2 := by
  unfold cheight
  cases hst : s.stacks[t]? with
  | none => exact Nat.zero_le 2
  | some st => exact (hs st hst).length_le

/-- two handles on a node of count 2, both dropped by the `try_unwrap` loop, in the schedule `0 1 0 1 0 1`:
both threads enter `try_unwrap` before either decrements, both calls fail, and the plain `Arc::drop` of
thread 1, coming second, is the last owner's: it frees the node and goes on into its `next` by drop glue -/
theorem try_unwrap_both_fail {h : Heap} {id : NodeId} {node : Node} (hn : h[id]? = some node) (h2 : node.rc = 2) :
    crun ⟨h, [[dropFrame .loopTryUnwrap (some id)], [dropFrame .loopTryUnwrap (some id)]]⟩ [0, 1, 0, 1, 0, 1] =
      ⟨setRc h id node 0, [[.listDrop true none], [.dropLink node.next, .dropNodeWait id, .listDrop true none]]⟩ := by
  simp [crun, cstep, dropFrame, stepCore, hn, h2, getElem?_setRc_self hn, setLink, setRc_setRc]
  rfl

theorem try_unwrap_race (h : Heap) (id : NodeId) (node : Node) (n : Nat)
    (hn : h[id]? = some node) (h2 : node.rc = 2) (hlt : ∀ j, node.next = some j → j < id)
    (hc : UniqueChain h node.next n) :
    cheight (crun ⟨h, [[dropFrame .loopTryUnwrap (some id)], [dropFrame .loopTryUnwrap (some id)]]⟩
      ([0, 1, 0, 1, 0, 1] ++ List.replicate n 1)) 1 = n + 3 := by
  rw [crun_append, try_unwrap_both_fail hn h2, crun_replicate n _ 1 _ [] rfl]
  exact (glue_drop_chain (hc.setRc_head hlt 0)
    [.dropNodeWait id, .listDrop true none] []).1

end Arimaa.ListStack
