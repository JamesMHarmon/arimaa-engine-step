import Arimaa.Lemmas.HashDelta
import Arimaa.Lemmas.ZobristTables

/-!
C17 — changing one hashed feature always changes the transposition hash.

States are the play-phase states `mkPlay b side n pp` (`Lemmas/HashDelta.lean`): board `b`, side to
move `side` (`true` = Gold), move number `n`, play-phase record `pp` (step = `pp.step`, pending
push/pull = `pp.pps`), and `hash := Zobrist::from_piece_board(b, side, pp.step)` — what
`GameState::new` + `PlayPhase::new` build when handed that hash.  All theorems quantify over ALL
boards / backgrounds.
-/
namespace Arimaa
open Gen

/-- T1: the side-to-move constant is not zero. -/
theorem C17_T1 : Z_PLAYER_TO_MOVE ≠ 0 := playerToMove_ne_zero

/-- T2: the four step constants are pairwise distinct (raw table, and as looked up by the model
for steps 0..3). -/
theorem C17_T2 : Z_STEP_VALUES.length = 4 ∧ Z_STEP_VALUES.Nodup ∧
    ∀ i j, i < 4 → j < 4 → i ≠ j → stepValueAt i ≠ stepValueAt j :=
  ⟨stepValues_length, stepValues_nodup, stepValueAt_ne⟩

/-- T3: for each of the 64 squares, `0` and the twelve `SQUARE_VALUES[row][sq]` are pairwise
distinct (raw table), and the thirteen values the model's `piece_value` attaches to the thirteen
possible contents of the square (empty = 0) are pairwise distinct. -/
theorem C17_T3 (sq : Nat) (hsq : sq < 64) :
    (0 :: Z_SQUARE_VALUES.map (fun row => row.getD sq 0)).Nodup ∧
    ∀ c c' : Option (Bool × Piece), c ≠ c' → contentValue sq c ≠ contentValue sq c' :=
  ⟨squareValues_columns_nodup sq hsq, contentValue_ne sq hsq⟩

/-- T4: `SQUARE_VALUES` has twelve rows of 64 pairwise distinct entries each (raw table), and the
model's `piece_value` of one (owner, piece) on two different squares differs. -/
theorem C17_T4 : Z_SQUARE_VALUES.length = 12 ∧
    (∀ row ∈ Z_SQUARE_VALUES, row.length = 64 ∧ row.Nodup) ∧
    ∀ (o : Bool) (p : Piece) (i j : Nat), i < 64 → j < 64 → i ≠ j →
      pieceValue i p o ≠ pieceValue j p o :=
  ⟨squareValues_length, squareValues_rows_nodup, pieceValue_sq_ne⟩

/-- T5: the 641 values `0 :: PUSH_VALUES (all) ++ POSSIBLE_PULL_VALUES (all)` are pairwise distinct
(raw tables), they are exactly the values the model's `push_piece_value` / `pull_piece_value`
attach to the 641 valid statuses, and so different valid statuses have different values. -/
theorem C17_T5 : pushPullValues.length = 641 ∧ pushPullValues.Nodup ∧
    allStatuses.map ppsValue = pushPullValues ∧
    ∀ a b : PPS, a.Valid → b.Valid → a ≠ b → ppsValue a ≠ ppsValue b :=
  ⟨pushPullValues_length, pushPullValues_nodup, allStatuses_values, ppsValue_ne⟩

/-- If two boards have the same `bits_for_piece` plane for every (owner, piece) except `(o, p)`, and
that plane differs exactly in bit `q` (a piece added or removed), the from-scratch hashes differ by
exactly `piece_value(q, p, o)`.  No well-formedness is needed. -/
theorem C17_delta_plane (b b' : Board) (o : Bool) (p : Piece) (q : Nat) (hq : q < 64)
    (hsame : ∀ op : Bool × Piece, op ≠ (o, p) →
      b'.bitsForPiece op.2 op.1 = b.bitsForPiece op.2 op.1)
    (hdiff : b'.bitsForPiece p o = b.bitsForPiece p o ^^^ sqBit q) (side : Bool) (step : Nat) :
    zFromPieceBoard b' side step = zFromPieceBoard b side step ^^^ pieceValue q p o := by
  rw [zFromPieceBoard_eq, zFromPieceBoard_eq, boardPart_plane_delta b b' o p q hq hsame hdiff]
  simp only [BitVec.xor_assoc]

/-- Two boards with at most one piece per square that have the same content on every square except
`q`: the from-scratch hashes differ by the XOR of the two table entries of square `q`
(entry 0 for an empty square). -/
theorem C17_delta_content (b b' : Board) (hb : b.AtMostOne) (hb' : b'.AtMostOne) (q : Nat)
    (hq : q < 64) (hsame : ∀ i, i < 64 → i ≠ q → b.contentAt i = b'.contentAt i)
    (side : Bool) (step : Nat) :
    zFromPieceBoard b side step ^^^ zFromPieceBoard b' side step =
      contentValue q (b.contentAt q) ^^^ contentValue q (b'.contentAt q) := by
  rw [zFromPieceBoard_xor_contents b b' hb hb',
    xsum_single (List.range 64) _ q List.nodup_range (List.mem_range.mpr hq)]
  intro i hi hne
  rw [hsame i (List.mem_range.mp hi) hne, bb_xor_self]

/-- Two boards with at most one piece per square, equal except that the piece `op` stands on `q₁`
(and `q₂` is empty) in the first and on `q₂` (and `q₁` is empty) in the second: the hashes differ by
`piece_value(q₁, op) ^^^ piece_value(q₂, op)`. -/
theorem C17_delta_moved (b b' : Board) (hb : b.AtMostOne) (hb' : b'.AtMostOne) (q₁ q₂ : Nat)
    (h1 : q₁ < 64) (h2 : q₂ < 64) (hne : q₁ ≠ q₂) (op : Bool × Piece)
    (hb1 : b.contentAt q₁ = some op) (hb2 : b.contentAt q₂ = none)
    (hb'1 : b'.contentAt q₁ = none) (hb'2 : b'.contentAt q₂ = some op)
    (hsame : ∀ i, i < 64 → i ≠ q₁ → i ≠ q₂ → b.contentAt i = b'.contentAt i)
    (side : Bool) (step : Nat) :
    zFromPieceBoard b side step ^^^ zFromPieceBoard b' side step =
      pieceValue q₁ op.2 op.1 ^^^ pieceValue q₂ op.2 op.1 := by
  rw [zFromPieceBoard_xor_contents b b' hb hb',
    xsum_pair (List.range 64) _ q₁ q₂ List.nodup_range (List.mem_range.mpr h1)
      (List.mem_range.mpr h2) hne]
  · rw [hb1, hb2, hb'1, hb'2]
    simp [contentValue]
  · intro i hi hn1 hn2
    rw [hsame i (List.mem_range.mp hi) hn1 hn2, bb_xor_self]

/-- Changing only the side to move changes the from-scratch hash by `PLAYER_TO_MOVE`. -/
theorem C17_delta_side (b : Board) (step : Nat) :
    zFromPieceBoard b true step ^^^ zFromPieceBoard b false step = Z_PLAYER_TO_MOVE :=
  zFromPieceBoard_xor_side b true step

/-- Changing only the step number changes the from-scratch hash by the XOR of the two step
constants. -/
theorem C17_delta_step (b : Board) (side : Bool) (i j : Nat) :
    zFromPieceBoard b side i ^^^ zFromPieceBoard b side j = stepValueAt i ^^^ stepValueAt j :=
  zFromPieceBoard_xor_step b side i j

/-- Changing only the pending push/pull changes the transposition hash by the XOR of the two status
entries (entry 0 for "none"). -/
theorem C17_delta_status (b : Board) (side : Bool) (n : Nat) (pp pp' : PlayPhase)
    (hstep : pp.step = pp'.step) :
    (mkPlay b side n pp).transpositionHash ^^^ (mkPlay b side n pp').transpositionHash =
      ppsValue pp.pps ^^^ ppsValue pp'.pps := by
  rw [transpositionHash_mkPlay, transpositionHash_mkPlay, hstep, xor_xor_cancel_left]

/-- Content of one square.  Two play-phase states with the same side, step, pending status and the
same content on every square but `q`, whose boards (at most one piece per square) have different
content on `q` — any two of the 13 possibilities: empty or one of 12 (owner, piece) — have
different transposition hashes. -/
theorem C17_content (b b' : Board) (hb : b.AtMostOne) (hb' : b'.AtMostOne) (q : Nat) (hq : q < 64)
    (hsame : ∀ i, i < 64 → i ≠ q → b.contentAt i = b'.contentAt i)
    (hdiff : b.contentAt q ≠ b'.contentAt q) (side : Bool) (n : Nat) (pp : PlayPhase) :
    (mkPlay b side n pp).transpositionHash ≠ (mkPlay b' side n pp).transpositionHash := by
  rw [transpositionHash_mkPlay, transpositionHash_mkPlay]
  intro h
  rw [BitVec.xor_left_inj, ← BitVec.xor_eq_zero_iff, C17_delta_content b b' hb hb' q hq hsame, BitVec.xor_eq_zero_iff] at h
  exact contentValue_ne q hq _ _ hdiff h

/-- Side to move.  Two play-phase states equal except for the side to move have different
transposition hashes (any board, step, status). -/
theorem C17_side (b : Board) (n : Nat) (pp : PlayPhase) :
    (mkPlay b true n pp).transpositionHash ≠ (mkPlay b false n pp).transpositionHash := by
  rw [transpositionHash_mkPlay, transpositionHash_mkPlay]
  intro h
  rw [BitVec.xor_left_inj, ← BitVec.xor_eq_zero_iff, C17_delta_side] at h
  exact playerToMove_ne_zero h

/-- Step number.  Two play-phase states with the same board, side and pending status but different
step numbers in 0..3 have different transposition hashes.  (The other fields of the two play-phase
records are unconstrained.) -/
theorem C17_step (b : Board) (side : Bool) (n : Nat) (pp pp' : PlayPhase) (hpps : pp.pps = pp'.pps)
    (h3 : pp.step ≤ 3) (h3' : pp'.step ≤ 3) (hne : pp.step ≠ pp'.step) :
    (mkPlay b side n pp).transpositionHash ≠ (mkPlay b side n pp').transpositionHash := by
  rw [transpositionHash_mkPlay, transpositionHash_mkPlay, hpps]
  intro h
  rw [BitVec.xor_left_inj, ← BitVec.xor_eq_zero_iff, C17_delta_step, BitVec.xor_eq_zero_iff] at h
  exact stepValueAt_ne _ _ (by omega) (by omega) hne h

/-- Pending push/pull.  Two play-phase states with the same board, side and step whose statuses are
different valid statuses — none / possible pull (square < 64, piece ≠ rabbit) / must complete push
(square < 64, piece ≠ elephant); different kind, square or piece type — have different
transposition hashes. -/
theorem C17_status (b : Board) (side : Bool) (n : Nat) (pp pp' : PlayPhase)
    (hstep : pp.step = pp'.step) (hv : pp.pps.Valid) (hv' : pp'.pps.Valid)
    (hne : pp.pps ≠ pp'.pps) :
    (mkPlay b side n pp).transpositionHash ≠ (mkPlay b side n pp').transpositionHash := by
  intro h
  rw [← BitVec.xor_eq_zero_iff, C17_delta_status b side n pp pp' hstep, BitVec.xor_eq_zero_iff] at h
  exact ppsValue_ne _ _ hv hv' hne h

/-- One piece on a different square.  Two play-phase states with the same side, step and status
whose boards (at most one piece per square) are equal except that piece `op` stands on `q₁` in one
and on `q₂ ≠ q₁` in the other have different transposition hashes. -/
theorem C17_piece_moved (b b' : Board) (hb : b.AtMostOne) (hb' : b'.AtMostOne) (q₁ q₂ : Nat)
    (h1 : q₁ < 64) (h2 : q₂ < 64) (hne : q₁ ≠ q₂) (op : Bool × Piece)
    (hb1 : b.contentAt q₁ = some op) (hb2 : b.contentAt q₂ = none)
    (hb'1 : b'.contentAt q₁ = none) (hb'2 : b'.contentAt q₂ = some op)
    (hsame : ∀ i, i < 64 → i ≠ q₁ → i ≠ q₂ → b.contentAt i = b'.contentAt i)
    (side : Bool) (n : Nat) (pp : PlayPhase) :
    (mkPlay b side n pp).transpositionHash ≠ (mkPlay b' side n pp).transpositionHash := by
  rw [transpositionHash_mkPlay, transpositionHash_mkPlay]
  intro h
  rw [BitVec.xor_left_inj, ← BitVec.xor_eq_zero_iff,
    C17_delta_moved b b' hb hb' q₁ q₂ h1 h2 hne op hb1 hb2 hb'1 hb'2 hsame, BitVec.xor_eq_zero_iff] at h
  exact pieceValue_sq_ne op.1 op.2 q₁ q₂ h1 h2 hne h

/-- gold elephant d2 (51), silver rabbit a8 (0), gold cat e4 (36) -/
private def exA : Board := Board.new (sqBit 51 ||| sqBit 36) (sqBit 51) 0 0 0 (sqBit 36) (sqBit 0)
/-- the same with the cat replaced by a silver dog -/
private def exB_C17 : Board := Board.new (sqBit 51) (sqBit 51) 0 0 (sqBit 36) 0 (sqBit 0)
/-- `exA` with the cat on e5 (28) instead of e4 -/
private def exC : Board := Board.new (sqBit 51 ||| sqBit 28) (sqBit 51) 0 0 0 (sqBit 28) (sqBit 0)

private theorem exA_atMostOne : exA.AtMostOne := exA.atMostOne_of_disjoint (by decide +kernel)
private theorem exB_atMostOne : exB_C17.AtMostOne := exB_C17.atMostOne_of_disjoint (by decide +kernel)
private theorem exC_atMostOne : exC.AtMostOne := exC.atMostOne_of_disjoint (by decide +kernel)

example : exA.AtMostOne ∧ exB_C17.AtMostOne ∧ exC.AtMostOne :=
  ⟨exA_atMostOne, exB_atMostOne, exC_atMostOne⟩

example (side : Bool) (n : Nat) (pp : PlayPhase) :
    (mkPlay exA side n pp).transpositionHash ≠ (mkPlay exB_C17 side n pp).transpositionHash :=
  C17_content exA exB_C17 exA_atMostOne exB_atMostOne 36 (by decide) (by decide +kernel)
    (by decide +kernel) side n pp

example (side : Bool) (n : Nat) (pp : PlayPhase) :
    (mkPlay exA side n pp).transpositionHash ≠ (mkPlay exC side n pp).transpositionHash :=
  C17_piece_moved exA exC exA_atMostOne exC_atMostOne 36 28 (by decide) (by decide)
    (by decide) (true, .cat) (by decide +kernel) (by decide +kernel) (by decide +kernel)
    (by decide +kernel) (by decide +kernel) side n pp

example : (PPS.possiblePull 12 .cat).Valid ∧ (PPS.mustCompletePush 12 .cat).Valid ∧
    PPS.none.Valid ∧ PPS.possiblePull 12 .cat ≠ PPS.mustCompletePush 12 .cat :=
  ⟨⟨by decide, by decide⟩, ⟨by decide, by decide⟩, trivial, by decide⟩

-- `prev` matters only through its length, which is the step
example : (mkPlay exA true 5 { (default : PlayPhase) with prev := [exB_C17], pps := .possiblePull 12 .cat }).transpositionHash
    ≠ (mkPlay exA true 5 { (default : PlayPhase) with prev := [exC], pps := .mustCompletePush 12 .cat }).transpositionHash :=
  C17_status _ _ _ _ _ rfl ⟨by decide, by decide⟩ ⟨by decide, by decide⟩ (by decide)

example : (mkPlay exA true 5 { (default : PlayPhase) with prev := [exB_C17] }).transpositionHash
    ≠ (mkPlay exA true 5 { (default : PlayPhase) with prev := [exB_C17, exC, exA] }).transpositionHash :=
  C17_step _ _ _ _ _ rfl (by decide) (by decide) (by decide)

end Arimaa
