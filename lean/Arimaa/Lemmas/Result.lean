import Arimaa.Lemmas.Sim
-- Not used below: imported so that every property resting on these lemmas has the agreement of
-- `rabbit_at_goal`, `lost_all_rabbits`, `has_move`, `is_terminal` with the translated source in its closure.
import Arimaa.Lemmas.GenAgreeResult

/-!
The third bridge: at the start of a turn `is_terminal` is the specification's decision list `Spec.result`
on the abstract board (`isTerminal_step0_eq`).  The list is met line by line: the goal-rank and elimination
tests of `rabbit_at_goal` / `lost_all_rabbits`, read through `absBoard`, with their last-mover-first
encoding are lines 1–4; `has_move` at the start of a turn (no pass, no repetition filtering) is
`Spec.hasStep`, line 5.  At the end `OfferedRun`, reachability along the rule-only list as a
relation on states, in which C04 speaks of reachable states.
-/
namespace Arimaa
open Gen Spec GameState

def terminalOf : Spec.Result → Terminal
  | .goldWin => .goldWin
  | .silverWin => .silverWin

def toSpecResult : Terminal → Spec.Result
  | .goldWin => .goldWin
  | .silverWin => .silverWin

theorem toSpecResult_terminalOf (r : Spec.Result) : toSpecResult (terminalOf r) = r := by
  cases r <;> rfl

theorem terminalOf_toSpecResult (t : Terminal) : terminalOf (toSpecResult t) = t := by
  cases t <;> rfl

theorem map_toSpecResult_map_terminalOf (o : Option Spec.Result) :
    (o.map terminalOf).map toSpecResult = o := by
  cases o <;> simp [toSpecResult_terminalOf]

theorem goal_bit (g : Bool) (i : Nat) (h : i < 64) :
    bit (if g then P1_OBJECTIVE_MASK else P2_OBJECTIVE_MASK) i = onGoalRank g i := by
  cases g
  · exact p2_objective_bit i h
  · exact p1_objective_bit i h

theorem goalTest_eq (b : Board) (hw : WF b) (g : Bool) :
    (((if g then b.p1 else ~~~b.p1) &&& b.rabbits &&&
      (if g then P1_OBJECTIVE_MASK else P2_OBJECTIVE_MASK)) != 0) = rabbitOnGoal (absBoard b) g :=
  ne_zero_eq_any _ _ fun i hi => by rw [bit_and, rabbit_abs b hw g i, goal_bit g i hi]

theorem lostTest_eq (b : Board) (hw : WF b) (g : Bool) :
    (((if g then b.p1 else ~~~b.p1) &&& b.rabbits) == 0) = !hasRabbit (absBoard b) g :=
  eq_zero_eq_not_any _ _ fun i _ => rabbit_abs b hw g i

/-- `rabbit_at_goal` is lines 1–2 of `Spec.result`: the player who just moved first -/
theorem rabbitAtGoal_eq (s : GameState) (b : Board) (hw : WF b) :
    s.rabbitAtGoal b =
      if rabbitOnGoal (absBoard b) (!s.p1Turn) then some (terminalOf (win (!s.p1Turn)))
      else if rabbitOnGoal (absBoard b) s.p1Turn then some (terminalOf (win s.p1Turn))
      else none := by
  have h1 := goalTest_eq b hw true
  have h2 := goalTest_eq b hw false
  simp only [if_true, Bool.false_eq_true, if_false] at h1 h2
  unfold rabbitAtGoal
  rw [h1, h2]
  cases s.p1Turn <;> simp only [Bool.not_true, Bool.not_false] <;>
    cases rabbitOnGoal (absBoard b) true <;> cases rabbitOnGoal (absBoard b) false <;> rfl

/-- `lost_all_rabbits` is lines 3–4 of `Spec.result`: the mover's elimination is looked at first -/
theorem lostAllRabbits_eq (s : GameState) (b : Board) (hw : WF b) :
    s.lostAllRabbits b =
      if !hasRabbit (absBoard b) s.p1Turn then some (terminalOf (win (!s.p1Turn)))
      else if !hasRabbit (absBoard b) (!s.p1Turn) then some (terminalOf (win s.p1Turn))
      else none := by
  have h1 := lostTest_eq b hw true
  have h2 := lostTest_eq b hw false
  simp only [if_true, Bool.false_eq_true, if_false] at h1 h2
  unfold lostAllRabbits
  rw [h1, h2]
  cases s.p1Turn <;> simp only [Bool.not_true, Bool.not_false] <;>
    cases hasRabbit (absBoard b) true <;> cases hasRabbit (absBoard b) false <;> rfl

theorem noRep_ne_nil_iff_step0 (s : GameState) (pp : PlayPhase) (hph : s.phase = .play pp)
    (hw : WF s.board) (h0 : pp.step = 0) (hpps : pp.pps = .none) :
    s.validActionsNoRep ≠ [] ↔ hasStep (absBoard s.board) s.p1Turn = true := by
  have hp : PendOk s.board pp.pps := by rw [hpps]; trivial
  unfold hasStep
  rw [List.any_eq_true]
  constructor
  · intro hne
    obtain ⟨a, ha⟩ := List.exists_mem_of_ne_nil _ hne
    rcases step_or_pass_of_mem s pp hph false a ha with rfl | ⟨i, d, rfl⟩
    · have := (pass_mem_validActions__iff s false).mp ha
      rw [canPass_step0 s pp hph h0] at this
      cases this
    obtain ⟨hi, he⟩ := (enabled_iff s pp hph hw hp i d).1 ha
    rw [h0, hpps] at he
    exact ⟨i, List.mem_range.2 hi, List.any_eq_true.2 ⟨dirSpec d, (dirSpec d).mem_all, he⟩⟩
  · rintro ⟨i, hi, hd⟩
    obtain ⟨d, _, he⟩ := List.any_eq_true.1 hd
    obtain ⟨d', rfl⟩ := dirSpec_surj d
    have hmem := (enabled_iff s pp hph hw hp i d').2
      ⟨List.mem_range.1 hi, by rw [h0, hpps]; exact he⟩
    exact List.ne_nil_of_mem hmem

/-- line 5 of `Spec.result` -/
theorem hasMove_step0_eq (s : GameState) (pp : PlayPhase) (hph : s.phase = .play pp)
    (hw : WF s.board) (h0 : pp.step = 0) (hpps : pp.pps = .none) :
    s.hasMove s.board =
      if !hasStep (absBoard s.board) s.p1Turn then some (terminalOf (win (!s.p1Turn)))
      else none := by
  have h : s.hasMove s.board = none ↔ hasStep (absBoard s.board) s.p1Turn = true := by
    rw [← validActions_ne_nil_iff s pp hph (by omega), validActions_eq_noRep_step0 s pp hph h0]
    exact noRep_ne_nil_iff_step0 s pp hph hw h0 hpps
  cases hs : hasStep (absBoard s.board) s.p1Turn
  · have hne : s.hasMove s.board ≠ none := fun e => by
      have := h.1 e; rw [hs] at this; cases this
    rw [hasMove_eq_some s s.board hne]
    cases s.p1Turn <;> simp [terminalOf, win]
  · simpa using h.2 hs

/-- the third bridge, beside `enabled_iff` and `nextStatus_eq`: at the start of a turn `is_terminal` is the
specification's decision list on the abstract board -/
theorem isTerminal_step0_eq (s : GameState) (pp : PlayPhase) (hph : s.phase = .play pp)
    (hw : WF s.board) (h0 : pp.step = 0) (hpps : pp.pps = .none) :
    s.isTerminal = (Spec.result (absBoard s.board) s.p1Turn).map terminalOf := by
  have hn : ¬ pp.step > 0 := by omega
  simp only [isTerminal, hph, hn, if_false]
  rw [rabbitAtGoal_eq s s.board hw, lostAllRabbits_eq s s.board hw,
    hasMove_step0_eq s pp hph hw h0 hpps]
  unfold Spec.result
  simp only []  -- substitutes the `let`s `m`, `l` of `Spec.result`
  -- down the list line by line; where a line fires, both sides stop
  cases rabbitOnGoal (absBoard s.board) (!s.p1Turn)
  case true => rfl
  cases rabbitOnGoal (absBoard s.board) s.p1Turn
  case true => rfl
  cases hasRabbit (absBoard s.board) s.p1Turn
  case false => rfl
  cases hasRabbit (absBoard s.board) (!s.p1Turn)
  case false => rfl
  cases hasStep (absBoard s.board) s.p1Turn <;> rfl

/-- `OfferedNR` without naming the list (`offeredRun_iff`). -/
inductive OfferedRun (s0 : GameState) : GameState → Prop
  | refl : OfferedRun s0 s0
  | step {s : GameState} {a : Action} : OfferedRun s0 s → a ∈ s.validActionsNoRep →
      OfferedRun s0 (s.takeAction a)

theorem offeredRun_iff (s0 s : GameState) : OfferedRun s0 s ↔ ∃ as, OfferedNR s0 as ∧ s0.run as = s := by
  constructor
  · intro hr
    induction hr with
    | refl => exact ⟨[], trivial, rfl⟩
    | @step s a _ ha ih =>
      obtain ⟨as, ho, rfl⟩ := ih
      exact ⟨as ++ [a], (offeredNR_append s0 as [a]).mpr ⟨ho, ha, trivial⟩, by rw [run_append]; rfl⟩
  · rintro ⟨as, ho, rfl⟩
    induction as using List.snoc_induction with
    | nil => exact .refl
    | snoc as a ih =>
      obtain ⟨ho1, ha, _⟩ := (offeredNR_append s0 as [a]).mp ho
      rw [run_append]
      exact .step (ih ho1) ha

end Arimaa
