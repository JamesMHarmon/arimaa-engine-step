import Arimaa.Lemmas.Xor

/-!
How `Zobrist::from_piece_board` changes when one feature of the position changes, and the play-phase states `mkPlay`
that C17 speaks about.  Independent of the table values.
-/
namespace Arimaa

theorem boardPart_plane_delta (b b' : Board) (o : Bool) (p : Piece) (q : Nat) (hq : q < 64)
    (hsame : ∀ op : Bool × Piece, op ≠ (o, p) →
      b'.bitsForPiece op.2 op.1 = b.bitsForPiece op.2 op.1)
    (hdiff : b'.bitsForPiece p o = b.bitsForPiece p o ^^^ sqBit q) :
    boardPart b' = boardPart b ^^^ pieceValue q p o := by
  have h : boardPart b ^^^ boardPart b' = pieceValue q p o := by
    rw [← pieceBoardValue_eq]
    show xsum planes _ = _
    rw [xsum_single planes _ (o, p) planes_nodup (mem_planes _)]
    · show xorOver (b.bitsForPiece p o ^^^ b'.bitsForPiece p o) _ = _
      rw [hdiff, xor_cancel_left, xorOver_sqBit q hq]
    · intro op _ hne
      show xorOver (b.bitsForPiece op.2 op.1 ^^^ b'.bitsForPiece op.2 op.1) _ = 0
      rw [hsame op hne, bb_xor_self, xorOver_zero]
  rw [← h, xor_cancel_left]

/-- what the hash sees on square `sq`: the first (in fact, on well-formed boards, the only)
(owner, piece) whose `bits_for_piece` plane has the square set -/
def Board.contentAt (b : Board) (sq : Nat) : Option (Bool × Piece) :=
  planes.find? (fun op => bit (b.bitsForPiece op.2 op.1) sq)

def Board.AtMostOne (b : Board) : Prop :=
  ∀ sq, sq < 64 → ∀ op ∈ planes, ∀ op' ∈ planes,
    bit (b.bitsForPiece op.2 op.1) sq = true → bit (b.bitsForPiece op'.2 op'.1) sq = true → op = op'

instance (b : Board) : Decidable b.AtMostOne := by
  unfold Board.AtMostOne; infer_instance

-- for concrete boards: 144 word tests instead of the 64 · 144 bit tests of the instance
theorem Board.atMostOne_of_disjoint (b : Board)
    (h : ∀ op ∈ planes, ∀ op' ∈ planes, op ≠ op' →
      b.bitsForPiece op.2 op.1 &&& b.bitsForPiece op'.2 op'.1 = 0) : b.AtMostOne := by
  intro sq _ op hop op' hop' h1 h2
  refine Decidable.byContradiction fun hne => ?_
  have hb := bit_and (b.bitsForPiece op.2 op.1) (b.bitsForPiece op'.2 op'.1) sq
  rw [h op hop op' hop' hne, h1, h2, bit_zero] at hb
  cases hb

def sqPart (b : Board) (i : Nat) : BB :=
  xsum planes (fun op => xorTerm (b.bitsForPiece op.2 op.1) (fun sq => pieceValue sq op.2 op.1) i)

theorem boardPart_eq_squares (b : Board) : boardPart b = xsum (List.range 64) (sqPart b) := by
  rw [boardPart_eq_xsum]
  unfold sqPart
  rw [← xsum_comm]
  apply xsum_congr
  intro op _
  exact xorOver_eq_xsum _ _

theorem contentAt_some {b : Board} {i : Nat} {op : Bool × Piece} (h : b.contentAt i = some op) :
    bit (b.bitsForPiece op.2 op.1) i = true := by
  unfold Board.contentAt at h
  -- elaborated without the goal: against it, `p a = true` is read as `p := bit …`, `a := i`
  have hbit := List.find?_some h
  exact hbit

theorem contentAt_none {b : Board} {i : Nat} (h : b.contentAt i = none) (op : Bool × Piece) :
    bit (b.bitsForPiece op.2 op.1) i = false := by
  unfold Board.contentAt at h
  exact Bool.eq_false_iff.mpr (List.find?_eq_none.mp h op (mem_planes op))

theorem sqPart_eq_content (b : Board) (hb : b.AtMostOne) (i : Nat) (hi : i < 64) :
    sqPart b i = contentValue i (b.contentAt i) := by
  unfold sqPart
  cases hc : b.contentAt i with
  | none =>
    refine xsum_zero _ _ fun op _ => ?_
    rw [xorTerm, contentAt_none hc op]
    rfl
  | some op =>
    rw [xsum_single planes _ op planes_nodup (mem_planes op)]
    · rw [xorTerm, contentAt_some hc]
      rfl
    · intro op' _ hne
      rw [xorTerm]
      cases hb' : bit (b.bitsForPiece op'.2 op'.1) i
      · rfl
      · exact absurd (hb i hi op' (mem_planes _) op (mem_planes _) hb' (contentAt_some hc)) hne

theorem contentAt_eq_some_iff (b : Board) (hb : b.AtMostOne) (i : Nat) (hi : i < 64)
    (op : Bool × Piece) : b.contentAt i = some op ↔ bit (b.bitsForPiece op.2 op.1) i = true := by
  refine ⟨contentAt_some, fun hbit => ?_⟩
  cases hc : b.contentAt i with
  | none => rw [contentAt_none hc op] at hbit; cases hbit
  | some op' =>
    rw [hb i hi op' (mem_planes _) op (mem_planes _) (contentAt_some hc) hbit]

theorem boardPart_eq_contents (b : Board) (hb : b.AtMostOne) :
    boardPart b = xsum (List.range 64) (fun i => contentValue i (b.contentAt i)) := by
  rw [boardPart_eq_squares]
  exact xsum_congr _ _ _ fun i hi => sqPart_eq_content b hb i (List.mem_range.mp hi)

/-- two from-scratch hashes of one side and step differ by the XOR, over the 64 squares, of the differences of the
table entries of what stands there: one changed square leaves one term (`xsum_single`), a moved piece two
(`xsum_pair`) -/
theorem zFromPieceBoard_xor_contents (b b' : Board) (hb : b.AtMostOne) (hb' : b'.AtMostOne) (side : Bool)
    (step : Nat) :
    zFromPieceBoard b side step ^^^ zFromPieceBoard b' side step =
      xsum (List.range 64) (fun i => contentValue i (b.contentAt i) ^^^ contentValue i (b'.contentAt i)) := by
  rw [zFromPieceBoard_xor_board, boardPart_eq_contents b hb, boardPart_eq_contents b' hb', xsum_xor]

/-- the play-phase state that `GameState::new` builds from a board, a side, a move number and a
`PlayPhase` when the `hash` it is handed is `Zobrist::from_piece_board(board, side, step)` -/
def mkPlay (b : Board) (side : Bool) (moveNo : Nat) (pp : PlayPhase) : GameState :=
  { p1Turn := side, moveNo := moveNo, phase := .play pp, board := b,
    hash := zFromPieceBoard b side pp.step }

theorem transpositionHash_mkPlay (b : Board) (side : Bool) (n : Nat) (pp : PlayPhase) :
    (mkPlay b side n pp).transpositionHash = zFromPieceBoard b side pp.step ^^^ ppsValue pp.pps := by
  show zWithPPS _ _ = _
  rw [zWithPPS_eq]; rfl

end Arimaa
