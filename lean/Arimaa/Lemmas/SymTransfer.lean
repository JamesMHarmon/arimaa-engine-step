import Arimaa.Lemmas.Sim
import Arimaa.Lemmas.SpecSymmetry

/-!
The transfer of C11 from the specification to the implementation model.  The symmetries are automorphisms of the
machine, the model simulates the machine and `absAct` intertwines `iact` with `act`: so states that describe image
turn states (`SymRel`) offer image actions and step to related states.
-/
namespace Arimaa
open Spec

def Spec.Sym.idir : Spec.Sym → Arimaa.Dir → Arimaa.Dir
  | .mirror, .up => .up | .mirror, .right => .left | .mirror, .down => .down | .mirror, .left => .right
  | .swap, .up => .down | .swap, .right => .right | .swap, .down => .up | .swap, .left => .left
  | .both, .up => .down | .both, .right => .left | .both, .down => .up | .both, .left => .right

/-- setup placements are not actions of the play phase -/
def Spec.Sym.iact (σ : Spec.Sym) : Action → Action
  | .move i d => .move (σ.sq i) (σ.idir d)
  | .pass => .pass
  | .place p => .place p

theorem dirSpec_idir (σ : Spec.Sym) (d : Dir) : dirSpec (σ.idir d) = σ.dir (dirSpec d) := by
  cases σ <;> cases d <;> rfl

theorem idir_idir (σ : Spec.Sym) (d : Dir) : σ.idir (σ.idir d) = d := by
  cases σ <;> cases d <;> rfl

theorem iact_iact (σ : Spec.Sym) (a : Action) : σ.iact (σ.iact a) = a := by
  cases a <;> simp only [Spec.Sym.iact, Spec.Sym.sq_sq, idir_idir]

theorem absAct_iact (σ : Spec.Sym) (a : Action) : absAct (σ.iact a) = (absAct a).map σ.act := by
  cases a <;> simp only [Spec.Sym.iact, absAct, Option.map, Spec.Sym.act, dirSpec_idir]

/-- two play-phase model states describe turn states that are images of each other under `σ`:
image board, image side to move, the same step number, image push/pull status -/
structure SymRel (σ : Spec.Sym) (s : GameState) (pp : PlayPhase) (s' : GameState) (pp' : PlayPhase) :
    Prop where
  board : absBoard s'.board = σ.board (absBoard s.board)
  turn : s'.p1Turn = σ.col s.p1Turn
  step : pp'.step = pp.step
  pend : absPend pp'.pps = σ.pend (absPend pp.pps)

theorem symRel_iff (σ : Spec.Sym) (s : GameState) (pp : PlayPhase) (s' : GameState) (pp' : PlayPhase) :
    SymRel σ s pp s' pp' ↔ absState s' pp' = σ.state (absState s pp) := by
  simp only [absState, Spec.Sym.state, State.mk.injEq]
  exact ⟨fun h => ⟨h.board, h.turn, h.step, h.pend⟩, fun h => ⟨h.1, h.2.1, h.2.2.1, h.2.2.2⟩⟩

/-- the recursion of `OfferedNR` (Lemmas/Sim.lean) under the name the C11 statements use; `playableNoRep_iff_offeredNR` -/
def PlayableNoRep (s : GameState) : List Action → Prop
  | [] => True
  | a :: as => a ∈ s.validActionsNoRep ∧ PlayableNoRep (s.takeAction a) as

theorem playableNoRep_iff_offeredNR (s : GameState) (as : List Action) :
    PlayableNoRep s as ↔ OfferedNR s as := by
  induction as generalizing s with
  | nil => exact Iff.rfl
  | cons a as ih => exact and_congr_right fun _ => ih _

theorem symRel_offered (σ : Spec.Sym) (s s' : GameState) (pp pp' : PlayPhase) (h : PlayInv s pp)
    (h' : PlayInv s' pp') (hr : SymRel σ s pp s' pp') (a : Action) :
    σ.iact a ∈ s'.validActionsNoRep ↔ a ∈ s.validActionsNoRep := by
  rw [sim_enabled s pp h a, sim_enabled s' pp' h' (σ.iact a), absAct_iact, (symRel_iff σ s pp s' pp').1 hr]
  cases absAct a with
  | none => simp
  | some a1 => simp only [Option.map, Option.some.injEq, exists_eq_left', σ.enabled_act]

theorem symRel_step (σ : Spec.Sym) (s s' : GameState) (pp pp' : PlayPhase) (h : PlayInv s pp)
    (h' : PlayInv s' pp') (hr : SymRel σ s pp s' pp') (a : Action) (ha : a ∈ s.validActionsNoRep) :
    σ.iact a ∈ s'.validActionsNoRep ∧
    ∃ pp1 pp1', PlayInv (s.takeAction a) pp1 ∧ PlayInv (s'.takeAction (σ.iact a)) pp1' ∧
      SymRel σ (s.takeAction a) pp1 (s'.takeAction (σ.iact a)) pp1' := by
  have ha' := (symRel_offered σ s s' pp pp' h h' hr a).2 ha
  obtain ⟨a1, pp1, e1, hen, hi1, n1⟩ := sim_step s pp h a ha
  obtain ⟨a2, pp1', e2, _, hi1', n2⟩ := sim_step s' pp' h' _ ha'
  rw [absAct_iact, e1] at e2
  obtain rfl : σ.act a1 = a2 := Option.some.inj e2
  refine ⟨ha', pp1, pp1', hi1, hi1', ?_⟩
  rw [symRel_iff, n2, n1, (symRel_iff σ s pp s' pp').1 hr, σ.next_act _ a1 hen]

theorem symRel_run (σ : Spec.Sym) (as : List Action) (s s' : GameState) (pp pp' : PlayPhase)
    (h : PlayInv s pp) (h' : PlayInv s' pp') (hr : SymRel σ s pp s' pp') (ho : OfferedNR s as) :
    OfferedNR s' (as.map σ.iact) ∧
    ∃ pp1 pp1', PlayInv (s.run as) pp1 ∧ PlayInv (s'.run (as.map σ.iact)) pp1' ∧
      SymRel σ (s.run as) pp1 (s'.run (as.map σ.iact)) pp1' := by
  induction as generalizing s s' pp pp' with
  | nil => exact ⟨trivial, pp, pp', h, h', hr⟩
  | cons a as ih =>
    obtain ⟨ha', pp1, pp1', hi1, hi1', hr1⟩ := symRel_step σ s s' pp pp' h h' hr a ho.1
    obtain ⟨hp2, r⟩ := ih _ _ pp1 pp1' hi1 hi1' hr1 ho.2
    exact ⟨⟨ha', hp2⟩, r⟩

end Arimaa
