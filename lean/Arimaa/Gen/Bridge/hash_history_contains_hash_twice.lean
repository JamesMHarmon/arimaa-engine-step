-- GENERATED by /verif/tools/gen.py -- do not edit.  Bridge from the current text of `hash_history_contains_hash_twice` to the baseline text.
import Arimaa.Gen.Rs
import Arimaa.Gen.RsBase
import Arimaa.Gen.BridgeLadder

namespace Arimaa.Gen.Bridge
open Arimaa Arimaa.Gen Arimaa.Rt

set_option maxHeartbeats 1000000 in
theorem bridge_hash_history_contains_hash_twice : @Rs.hash_history_contains_hash_twice = @RsBase.hash_history_contains_hash_twice := by
  funext a0 a1
  rs_ladder [Rs.hash_history_contains_hash_twice, RsBase.hash_history_contains_hash_twice] [] (skip) [Rs.hash_history_contains_hash_twice, RsBase.hash_history_contains_hash_twice]

end Arimaa.Gen.Bridge
