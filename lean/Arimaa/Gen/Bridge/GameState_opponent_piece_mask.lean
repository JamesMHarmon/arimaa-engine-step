-- GENERATED by /verif/tools/gen.py -- do not edit.  Bridge from the current text of `GameState::opponent_piece_mask` to the baseline text.
import Arimaa.Gen.Rs
import Arimaa.Gen.RsBase
import Arimaa.Gen.BridgeLadder

namespace Arimaa.Gen.Bridge
open Arimaa Arimaa.Gen Arimaa.Rt

set_option maxHeartbeats 1000000 in
theorem bridge_GameState_opponent_piece_mask : @Rs.GameState_opponent_piece_mask = @RsBase.GameState_opponent_piece_mask := by
  funext a0 a1
  rs_ladder [Rs.GameState_opponent_piece_mask, RsBase.GameState_opponent_piece_mask] [] (skip) [Rs.GameState_opponent_piece_mask, RsBase.GameState_opponent_piece_mask]

end Arimaa.Gen.Bridge
