import Arimaa.Lemmas.RsAgreeSquareCore
import Arimaa.Lemmas.RsAgreeRes
import Arimaa.Impl.Panics

/-!
Agreement for the remaining functions of `square.rs` (`row`, `column_char`, `new`): used by C16 only.
-/
namespace Arimaa.RsAgree
open Arimaa.Gen Arimaa.Rt

theorem square_row (sq : Nat) : RsSq.Square_row sq = Res.guard (sqRowPanics sq) (sqRow sq) := by
  unfold RsSq.Square_row sqRowPanics sqRow
  dsimp only
  rw [show Rt.divUsize sq BOARD_WIDTH = .ok (sq / BOARD_WIDTH) from if_neg (by decide), Res.bind_ok,
    show Rt.subUsize BOARD_HEIGHT (sq / BOARD_WIDTH) =
      Res.guard (decide (sq / BOARD_WIDTH > BOARD_HEIGHT)) (BOARD_HEIGHT - sq / BOARD_WIDTH) from if_panic_ok _ _,
    bind_guard_ok,
    Nat.mod_eq_of_lt (by unfold BOARD_HEIGHT BOARD_WIDTH; omega : BOARD_HEIGHT - sq / BOARD_WIDTH < 256)]

theorem square_column_char (sq : Nat) : RsSq.Square_column_char sq = .ok (sqColumnChar sq) := by
  unfold RsSq.Square_column_char sqColumnChar
  dsimp only
  rw [show Rt.modUsize sq BOARD_WIDTH = .ok (sq % BOARD_WIDTH) from if_neg (by decide), Res.bind_ok,
    Nat.mod_eq_of_lt (by unfold BOARD_WIDTH; omega : sq % BOARD_WIDTH < 256),
    show Rt.addU8 ASCII_LETTER_A (sq % BOARD_WIDTH) = .ok (ASCII_LETTER_A + sq % BOARD_WIDTH) from
      if_neg (by unfold ASCII_LETTER_A BOARD_WIDTH; omega), Res.bind_ok]

/-- `Square::new(column, row)`: the value is computed on the low byte of the column character -/
theorem square_new (c : Char) (row : Nat) :
    RsSq.Square_new c row = Res.guard (sqNewPanics c row) ((c.toNat % 256 - 97) + (8 - row) * 8) := by
  unfold RsSq.Square_new Rt.subU8 Rt.subUsize Rt.mulU8 Rt.addU8 sqNewPanics BOARD_HEIGHT ASCII_LETTER_A Res.guard
  by_cases h1 : c.toNat % 256 < 97
  · simp [h1, Res.bind]
  · by_cases h2 : 8 < row
    · simp [h1, h2, Res.bind]
    · have h4 : (8 - row) % 256 = 8 - row := by omega
      have h5 : ¬ (8 - row) * 8 > 255 := by omega
      have h6 : ¬ c.toNat % 256 - 97 + (8 - row) * 8 > 255 := by omega
      simp [h1, h2, h4, h5, h6, Res.bind]

theorem square_new_ascii (c : Char) (row : Nat) (hc : c.toNat < 256) :
    RsSq.Square_new c row = Res.guard (sqNewPanics c row) (sqNew c row) := by
  rw [square_new]
  unfold sqNew BOARD_HEIGHT ASCII_LETTER_A
  rw [Nat.mod_eq_of_lt hc]

/-- ... which is `ok` for a file letter from `a` on and a rank up to 8 -/
theorem square_new_ok (c : Char) (row : Nat) (hc : 97 ≤ c.toNat) (hc' : c.toNat < 256) (hr : row ≤ 8) :
    RsSq.Square_new c row = .ok (sqNew c row) := by
  rw [square_new_ascii c row hc', show sqNewPanics c row = false from Bool.or_eq_false_iff.mpr
    ⟨decide_eq_false (by unfold ASCII_LETTER_A; omega), decide_eq_false (by unfold BOARD_HEIGHT; omega)⟩]
  rfl

end Arimaa.RsAgree
