import Arimaa.Lemmas.Nodup
import Arimaa.Lemmas.Sim
import Arimaa.Lemmas.PlayStart

/-!
C01 — Offered steps are exactly the legal Arimaa steps, pushes and pulls.

`PlayInv s pp` is the invariant of reachable play-phase states: well-formed board, the push/pull
status names an empty on-board square, step ≤ 3.  `Spec.enabledMove` is the rule: own step of an
unfrozen piece onto an empty neighbour (rabbits never backward), first half of a push of a strictly
weaker adjacent enemy piece by an unfrozen stronger piece (not on the last step), second half of a
pull, or - while a push is pending - only its completion by an unfrozen strictly stronger piece.
-/
namespace Arimaa
open Spec GameState

/-- **Offered steps = enabled steps.**  In every state satisfying the play invariant, a step
`(i, d)` is in the rule-only list iff `i` is on the board and the rules enable it, for every
combination of step index and pending push / possible pull. -/
theorem C01_enabled_iff (s : GameState) (pp : PlayPhase) (h : PlayInv s pp) (i : Nat) (d : Dir) :
    Action.move i d ∈ s.validActionsNoRep ↔
      i < 64 ∧ enabledMove (absBoard s.board) s.p1Turn pp.step (absPend pp.pps) i (dirSpec d) = true :=
  h.enabled_iff i d

/-- The rule-only list of a play state contains nothing but steps and possibly the pass. -/
theorem C01_only_steps_and_pass (s : GameState) (pp : PlayPhase) (h : PlayInv s pp) (a : Action)
    (ha : a ∈ s.validActionsNoRep) : a = .pass ∨ ∃ i d, a = .move i d :=
  step_or_pass_of_mem s pp h.phase false a ha

/-- **Pass.**  A pass is offered (rule-only list) exactly when at least one step has been made this
turn and no push is pending. -/
theorem C01_pass_iff (s : GameState) (pp : PlayPhase) (hph : s.phase = .play pp) :
    Action.pass ∈ s.validActionsNoRep ↔ passEnabled pp.step (absPend pp.pps) = true :=
  pass_mem_noRep_iff s pp hph

/-- **No action is listed twice.** -/
theorem C01_nodup (s : GameState) (pp : PlayPhase) (h : PlayInv s pp) : s.validActionsNoRep.Nodup :=
  validActionsNoRep_nodup s pp h

/-- Every offered step starts on an occupied board square and ends on an empty neighbouring one. -/
theorem C01_offered_step_shape (s : GameState) (pp : PlayPhase) (h : PlayInv s pp) (i : Nat) (d : Dir)
    (ha : Action.move i d ∈ s.validActionsNoRep) :
    i < 64 ∧ ∃ c j, absBoard s.board i = some c ∧ nbr i (dirSpec d) = some j ∧ j < 64 ∧
      absBoard s.board j = none := by
  obtain ⟨c, j, o⟩ := offered_step_facts s pp h i d ha
  exact ⟨o.src_lt, c, j, o.src, o.nbr_eq, o.dst_lt, o.dst_empty⟩

/-- **All prefixes.**  Along every list of actions each of which is in the rule-only list where it is
taken (any length, across turn changes), the invariant - and with it `C01_enabled_iff`,
`C01_pass_iff`, `C01_nodup` - holds at every state. -/
theorem C01_along_runs (s : GameState) (pp : PlayPhase) (h : PlayInv s pp) (as : List Action)
    (ho : OfferedNR s as) : ∃ pp', PlayInv (s.run as) pp' :=
  playInv_run s pp h as ho

/-- Every finished setup (any of the 64,864,800² orders) satisfies the invariant. -/
theorem C01_after_setup {ps : List Piece} {s : GameState} (hr : SetupRun ps s) (h32 : ps.length = 32) :
    ∃ pp, PlayInv s pp ∧ pp.step = 0 :=
  playInv_of_setup hr h32

/-- a concrete mid-turn position: Gold elephant d4 has just stepped from d5 (possible pull), Silver
rabbit on d6 may be pulled to d5 -/
def exC01 : GameState :=
  { p1Turn := true, moveNo := 5, hash := 0
    board := Board.new (sqBit 35) (sqBit 35) 0 0 0 0 (sqBit 19 ||| sqBit 60)
    phase := .play { prev := [Board.empty], pps := .possiblePull 27 .elephant, initHash := 0, hist := [],
                     trapped := false } }

example : Action.move 19 .down ∈ exC01.validActionsNoRep := by decide +kernel
example : Action.pass ∈ exC01.validActionsNoRep := by decide +kernel

end Arimaa
