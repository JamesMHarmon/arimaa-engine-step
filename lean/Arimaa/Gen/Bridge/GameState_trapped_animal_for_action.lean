-- GENERATED by /verif/tools/gen.py -- do not edit.  Bridge from the current text of `GameState::trapped_animal_for_action` to the baseline text.
import Arimaa.Gen.Rs
import Arimaa.Gen.RsBase
import Arimaa.Gen.BridgeLadder
import Arimaa.Gen.Bridge.GameState_piece_board
import Arimaa.Gen.Bridge.PieceBoard_move_piece
import Arimaa.Gen.Bridge.PieceBoardState_bits_for_piece
import Arimaa.Gen.Bridge.PieceBoardState_piece_type_at_square
import Arimaa.Gen.Bridge.PieceBoardState_trapped_piece_bits
import Arimaa.Gen.Bridge.is_p1_piece

namespace Arimaa.Gen.Bridge
open Arimaa Arimaa.Gen Arimaa.Rt

set_option maxHeartbeats 1000000 in
theorem bridge_GameState_trapped_animal_for_action : @Rs.GameState_trapped_animal_for_action = @RsBase.GameState_trapped_animal_for_action := by
  funext a0 a1
  rs_ladder [Rs.GameState_trapped_animal_for_action, RsBase.GameState_trapped_animal_for_action, bridge_GameState_piece_board, bridge_PieceBoard_move_piece, bridge_PieceBoardState_bits_for_piece, bridge_PieceBoardState_piece_type_at_square, bridge_PieceBoardState_trapped_piece_bits, bridge_is_p1_piece] [RsBase.GameState_piece_board, RsBase.PieceBoardState_bits_for_piece, RsBase.PieceBoardState_piece_type_at_square, RsBase.PieceBoardState_trapped_piece_bits, RsBase.PieceBoard_move_piece, RsBase.is_p1_piece]

end Arimaa.Gen.Bridge
