import Arimaa.Lemmas.Turn

/-!
# C14 — earlier boards of the current turn are reported faithfully

Property text: for a state reached after `k` steps of the current turn, asking for the board at
step `i` (`0 ≤ i ≤ k`) returns exactly the board that was current after `i` steps of this turn; at
the start of a turn only step 0 exists and it is the current board.

The "board that was current after `i` steps" is a ghost value: it is not stored in the model state
but obtained by re-running the first `i` steps from the turn-start state
(`GameState.stateAfter s0 ms i = s0.runMoves (ms.take i)`).  The theorem holds for every list of at
most three steps `Action.move sq d`, offered or not (stronger than asked).  Setup has no turn steps
(`piece_board_for_step` panics there by design), so the statement is about play-phase states.
-/
namespace Arimaa
open GameState

/-- Let `s0` be a turn-start play state (step 0, i.e. no recorded boards),
`ms` a list of `k ≤ 3` steps and `s_i` the state after the first `i` of them.  Then `s_k` is a
play-phase state whose step counter is `k`, whose recorded list is exactly
`[s_0.board, …, s_{k-1}.board]`, and `pieceBoardForStep i` on `s_k` returns `s_i.board` for every
`i ≤ k` (for `i = k` this is the current board). -/
theorem C14_boards_of_turn (s0 : GameState) (pp0 : PlayPhase) (hph : s0.phase = .play pp0)
    (hstart : pp0.step = 0) (ms : List (Nat × Dir)) (hk : ms.length ≤ 3) :
    ∃ ppk, (s0.runMoves ms).phase = .play ppk ∧
      ppk.step = ms.length ∧ (s0.runMoves ms).step = ms.length ∧
      ppk.prev = (List.range ms.length).map (fun i => (s0.stateAfter ms i).board) ∧
      ∀ i, i ≤ ms.length → (s0.runMoves ms).pieceBoardForStep i = (s0.stateAfter ms i).board := by
  have h0 : pp0.prev = [] := List.length_eq_zero_iff.1 hstart
  obtain ⟨ppk, h1, hstep, h2⟩ := prev_runMoves s0 pp0 hph h0 ms hk
  refine ⟨ppk, h1, hstep, by simp [GameState.step, h1, hstep], h2, ?_⟩
  intro i hi
  unfold pieceBoardForStep
  simp only [h1, hstep]
  by_cases hik : i = ms.length
  · rw [if_pos hik, hik, stateAfter_length]
  · rw [if_neg hik, h2]
    have hlt : i < ms.length := by omega
    simp [List.getD_eq_getElem?_getD, List.getElem?_map, List.getElem?_range hlt]

/-- At the start of a turn (`k = 0`): the step counter is 0, nothing is recorded, the only index
in range is `i = 0` and it yields the current board. -/
theorem C14_turn_start (s0 : GameState) (pp0 : PlayPhase) (hph : s0.phase = .play pp0)
    (hstart : pp0.step = 0) :
    pp0.prev = [] ∧ (∀ i, i ≤ s0.step → i = 0) ∧ s0.pieceBoardForStep 0 = s0.board := by
  obtain ⟨_, _, _, _, _, h5⟩ := C14_boards_of_turn s0 pp0 hph hstart [] (by simp)
  refine ⟨List.length_eq_zero_iff.1 hstart, ?_, ?_⟩
  · intro i hi
    have : s0.step = 0 := by simp [GameState.step, hph, hstart]
    omega
  · simpa [stateAfter] using h5 0 (by simp)

/-- The boards reported for two consecutive indices are related by the step made between them:
`pieceBoardForStep (i+1)` is the result of `Board.takeMove` with the `i`-th step on
`pieceBoardForStep i`.  (This pins the ghost boards down without mentioning re-running.) -/
theorem C14_consecutive_boards (s0 : GameState) (pp0 : PlayPhase) (hph : s0.phase = .play pp0)
    (hstart : pp0.step = 0) (ms : List (Nat × Dir)) (hk : ms.length ≤ 3) (i : Nat)
    (hi : i < ms.length) :
    (s0.runMoves ms).pieceBoardForStep (i + 1) =
      (((s0.runMoves ms).pieceBoardForStep i).takeMove (ms[i]).1 (ms[i]).2).1 := by
  obtain ⟨ppk, _, _, _, _, h5⟩ := C14_boards_of_turn s0 pp0 hph hstart ms hk
  -- the state after `i` steps is a play state below step 3, so `movePiece_lt3` applies to it
  obtain ⟨ppi, hi1, hi2, _⟩ := prev_runMoves s0 pp0 hph (List.length_eq_zero_iff.1 hstart)
    (ms.take i) (by rw [List.length_take]; omega)
  rw [List.length_take] at hi2
  rw [h5 (i + 1) (by omega), h5 i (by omega), stateAfter_succ _ _ _ hi, stateAfter,
    movePiece_lt3 _ ppi hi1 _ _ (by omega)]

/-- Gold elephant alone on square 36 (e4), Gold to move, start of a turn. -/
private def exB_C14 : Board := Board.new (sqBit 36) (sqBit 36) 0 0 0 0 0
private def ex0_C14 : GameState :=
  { p1Turn := true, moveNo := 2, phase := .play (PlayPhase.initial 0 [0]), board := exB_C14, hash := 0 }
private def exMs : List (Nat × Dir) := [(36, .up), (28, .right), (29, .right)]

example : ex0_C14.phase = .play (PlayPhase.initial 0 [0]) ∧ (PlayPhase.initial 0 [0]).step = 0 ∧
    exMs.length ≤ 3 := ⟨rfl, rfl, by decide⟩

/-- a three-step turn with pairwise different boards: the four reported boards are the elephant on
e4, e5, f5, g5 -/
example :
    (List.range 4).map (fun i => ((ex0_C14.runMoves exMs).pieceBoardForStep i).elephants) =
      [sqBit 36, sqBit 28, sqBit 29, sqBit 30] := by decide +kernel

end Arimaa
