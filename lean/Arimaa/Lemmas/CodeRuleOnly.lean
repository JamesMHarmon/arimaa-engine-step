import Arimaa.Lemmas.RsAgreeGen
import Arimaa.Gen.Bridge.GameState_valid_actions_no_rep

/-!
`Code.valid_actions_no_rep`, apart from `RsAgreeGen`: the importers of that module must not carry the bridge of
`valid_actions_no_rep` in their closure.  It reads `valid_actions_no_rep_direct`, so that no lemma about the repetition
filter comes into the closure of C01 / C12.
-/
namespace Arimaa.Code
open Arimaa.Gen.Rs Arimaa.Rt Arimaa.Gen.Bridge

theorem valid_actions_no_rep (s : GameState) :
    GameState_valid_actions_no_rep s = Res.guard s.validActionsNoRepPanics s.validActionsNoRep :=
  bridge_GameState_valid_actions_no_rep ▸ RsAgree.valid_actions_no_rep_direct s

theorem rule_only {s : GameState} {l : List Action} (h : GameState_valid_actions_no_rep s = .ok l) :
    l = s.validActionsNoRep :=
  RsAgree.eq_of_guard_eq_ok (valid_actions_no_rep s) h

end Arimaa.Code
