-- GENERATED by /verif/tools/gen.py -- do not edit.  Bridge from the current text of `GameState::is_terminal` to the baseline text.
import Arimaa.Gen.Rs
import Arimaa.Gen.RsBase
import Arimaa.Gen.BridgeLadder
import Arimaa.Gen.Bridge.GameState_as_play_phase
import Arimaa.Gen.Bridge.GameState_has_move
import Arimaa.Gen.Bridge.GameState_lost_all_rabbits
import Arimaa.Gen.Bridge.GameState_piece_board
import Arimaa.Gen.Bridge.GameState_rabbit_at_goal
import Arimaa.Gen.Bridge.PlayPhase_step

namespace Arimaa.Gen.Bridge
open Arimaa Arimaa.Gen Arimaa.Rt

set_option maxHeartbeats 1000000 in
theorem bridge_GameState_is_terminal : @Rs.GameState_is_terminal = @RsBase.GameState_is_terminal := by
  funext a0
  rs_ladder [Rs.GameState_is_terminal, RsBase.GameState_is_terminal, bridge_GameState_as_play_phase, bridge_GameState_has_move, bridge_GameState_lost_all_rabbits, bridge_GameState_piece_board, bridge_GameState_rabbit_at_goal, bridge_PlayPhase_step] [RsBase.GameState_as_play_phase, RsBase.GameState_has_move, RsBase.GameState_lost_all_rabbits, RsBase.GameState_piece_board, RsBase.GameState_rabbit_at_goal, RsBase.PlayPhase_step]

end Arimaa.Gen.Bridge
