import Arimaa.Lemmas.History

/-!
Evaluators for `decide +kernel` on concrete games (the test vectors of C05, C06, C11).

What makes a replay cheap for the kernel: the board part of a hash visits the set bits of a plane only
(`xorBits`), where the model's `xorOver` tests all 64; membership of ONE action in the two action lists is
tested on the bitboards without building the lists; ONE fast successor `takeActionK`, from whose hash the
repetition test is read; ONE pass `replayK`, so that a game is replayed once for all conjuncts of a
statement.  Nothing needs to be forced to a literal: the kernel shares what it has evaluated.  Suffix `K`:
equal to a model function, faster for the kernel; `B`: a Boolean test with its `_iff`.
-/
namespace Arimaa
open Gen GameState

/-- `Nat.log2`, `^^^`, `2 ^ ·` on literals are single steps of the kernel's arithmetic.  The `match` makes the
kernel compute `n` before its three uses. -/
def xorBits (f : Nat → BB) : Nat → Nat → BB → BB
  | 0, _, acc => acc
  | fuel + 1, n, acc =>
    match n with
    | 0 => acc
    | m + 1 => xorBits f fuel ((m + 1) ^^^ 2 ^ (m + 1).log2) (acc ^^^ f (m + 1).log2)

theorem xor_top_lt {n : Nat} (h : n ≠ 0) : n ^^^ 2 ^ n.log2 < 2 ^ n.log2 := by
  apply Nat.lt_pow_two_of_testBit
  intro j hj
  rw [Nat.testBit_xor, Nat.testBit_two_pow]
  rcases Nat.eq_or_lt_of_le hj with rfl | hlt
  · rw [Nat.testBit_log2 h]; simp
  · rw [Nat.testBit_lt_two_pow (Nat.lt_of_lt_of_le Nat.lt_log2_self (Nat.pow_le_pow_right (by decide) hlt))]
    simp [Nat.ne_of_lt hlt]

theorem ofNat_two_pow (i : Nat) : BitVec.ofNat 64 (2 ^ i) = sqBit i := by
  apply BitVec.eq_of_toNat_eq
  rw [sqBit, BitVec.toNat_shiftLeft, BitVec.toNat_ofNat, BitVec.toNat_ofNat, Nat.shiftLeft_eq]
  simp

/-- splitting off the top bit is `xorOver_xor` with `xorOver_sqBit` -/
theorem xorBits_eq (f : Nat → BB) (fuel n : Nat) (acc : BB) (hn : n < 2 ^ fuel) (hf : fuel ≤ 64) :
    xorBits f fuel n acc = acc ^^^ xorOver (BitVec.ofNat 64 n) f := by
  have hz (acc : BB) : acc = acc ^^^ xorOver 0 f := by rw [xorOver_zero, bb_xor_zero]
  induction fuel generalizing n acc with
  | zero =>
    have : n = 0 := by omega
    subst this
    exact hz acc
  | succ fuel ih =>
    cases n with
    | zero => exact hz acc
    | succ m =>
      have hne : m + 1 ≠ 0 := by omega
      have hi : (m + 1).log2 < fuel + 1 := (Nat.log2_lt hne).mpr hn
      have hlt := Nat.lt_of_lt_of_le (xor_top_lt hne) (Nat.pow_le_pow_right (by decide) (Nat.le_of_lt_succ hi))
      have hsplit : BitVec.ofNat 64 (m + 1) =
          sqBit (m + 1).log2 ^^^ BitVec.ofNat 64 ((m + 1) ^^^ 2 ^ (m + 1).log2) := by
        rw [← ofNat_two_pow, ← BitVec.ofNat_xor, Nat.xor_comm (m + 1), ← Nat.xor_assoc, Nat.xor_self,
          Nat.zero_xor]
      rw [xorBits, ih _ _ hlt (by omega), hsplit, xorOver_xor, xorOver_sqBit _ (by omega),
        BitVec.xor_assoc]

theorem xorOver_eq_bits (x : BB) (f : Nat → BB) (acc : BB) :
    acc ^^^ xorOver x f = xorBits f 64 x.toNat acc := by
  rw [xorBits_eq f 64 _ _ x.isLt (Nat.le_refl _), BitVec.ofNat_toNat, BitVec.setWidth_eq]

/-- planes on which the boards agree cost nothing -/
def pieceBoardValueK (prev new : Board) : BB :=
  planes.foldl (fun acc (op : Bool × Piece) =>
    xorBits (fun sq => pieceValue sq op.2 op.1) 64
      (prev.bitsForPiece op.2 op.1 ^^^ new.bitsForPiece op.2 op.1).toNat acc) 0

theorem pieceBoardValueK_eq (prev new : Board) : pieceBoardValueK prev new = pieceBoardValue prev new := by
  unfold pieceBoardValueK pieceBoardValue
  simp only [← xorOver_eq_bits]

def zPosK (b : Board) (side : Bool) : BB :=
  planes.foldl (fun acc (op : Bool × Piece) =>
    xorBits (fun sq => pieceValue sq op.2 op.1) 64 (b.bitsForPiece op.2 op.1).toNat acc)
    ((if !side then Z_INITIAL ^^^ Z_PLAYER_TO_MOVE else Z_INITIAL) ^^^ stepValueAt 0)

theorem zPosK_eq (b : Board) (side : Bool) : zPosK b side = zPos b side := by
  unfold zPosK zPos zFromPieceBoard
  simp only [← xorOver_eq_bits]

/-- A start state rebuilt from board, side and move number: its three hash fields (`StartOk`: all
`zPos`) are one evaluation of `zPosK` instead of three of `zFromPieceBoard`. -/
def startK (b : Board) (g : Bool) (n : Nat) : GameState :=
  { p1Turn := g, moveNo := n, board := b, hash := zPosK b g,
    phase := .play (PlayPhase.initial (zPosK b g) [zPosK b g]) }

theorem startK_eq (s0 : GameState) (h0 : StartOk s0) : startK s0.board s0.p1Turn s0.moveNo = s0 := by
  unfold startK
  rw [zPosK_eq, ← h0.hash, ← h0.phase]

def pushB (s : GameState) (pp : PlayPhase) (sq : Nat) (d : Dir) : Bool :=
  pp.pps.canPush && decide (pp.step < 3) && decide (sq < 64) && bit (canMoveInDirection d s.board) sq &&
    bit (threatenedPieces (s.currPlayerNonFrozenPieces s.board) (s.opponentPieceMask s.board) s.board) sq

def pullB (s : GameState) (pp : PlayPhase) (sq : Nat) (d : Dir) : Bool :=
  match pp.pps with
  | .possiblePull q x =>
    (shiftPiecesInDirection d (lesserPieces x s.board &&& s.opponentPieceMask s.board) &&& sqBit q) != 0 &&
      sq == sqOfBit (shiftPiecesInOppDirection d (sqBit q))
  | _ => false

def ownB (s : GameState) (sq : Nat) (d : Dir) : Bool :=
  decide (sq < 64) && bit (canMoveInDirection d s.board) sq &&
    bit (s.currPlayerNonFrozenPieces s.board) sq && !bit (s.invalidRabbitMoves d s.board) sq

def mcpB (s : GameState) (pp : PlayPhase) (sq : Nat) (d : Dir) : Bool :=
  match pp.pps with
  | .mustCompletePush q v =>
    let x := shiftPiecesInOppDirection d (sqBit q) &&& s.currPlayerNonFrozenPieces s.board
    x != 0 && Piece.lt v (pieceTypeAtBit x s.board) && sq == sqOfBit x
  | _ => false

theorem pushB_iff (s : GameState) (pp : PlayPhase) (sq : Nat) (d : Dir) :
    pushB s pp sq d = true ↔ Action.move sq d ∈ s.pushActions pp s.board := by
  simp only [pushB, mem_pushActions, Bool.and_eq_true, decide_eq_true_eq, and_assoc]

theorem ownB_iff (s : GameState) (sq : Nat) (d : Dir) :
    ownB s sq d = true ↔ Action.move sq d ∈ s.ownMoves s.board := by
  simp only [ownB, mem_ownMoves, Bool.and_eq_true, decide_eq_true_eq, and_assoc, Bool.not_eq_true']

theorem pullB_iff (s : GameState) (pp : PlayPhase) (sq : Nat) (d : Dir) :
    pullB s pp sq d = true ↔ Action.move sq d ∈ s.pullExtend pp s.board [] := by
  rw [mem_pullExtend_nil, pullB]
  cases pp.pps <;> simp

theorem mcpB_iff (s : GameState) (pp : PlayPhase) (sq : Nat) (d : Dir) :
    mcpB s pp sq d = true ↔ Action.move sq d ∈ s.mustCompletePushActions pp s.board := by
  rw [mem_mustCompletePushActions, mcpB]
  cases pp.pps <;> simp

/-- `a ∈ s.validActionsNoRep`: the generators turn every set bit of their masks into an action (64 bit
tests per direction and generator); for one step it is one bit of the same masks. -/
def memNoRepB (s : GameState) (a : Action) : Bool :=
  match s.phase, a with
  | .place, a => decide (a ∈ s.validPlacement)
  | .play _, .pass => s.canPass false
  | .play _, .place _ => false
  | .play pp, .move sq d =>
    if pp.pps.isMustCompletePush then mcpB s pp sq d else ownB s sq d || (pushB s pp sq d || pullB s pp sq d)

theorem memNoRepB_iff (s : GameState) (a : Action) : memNoRepB s a = true ↔ a ∈ s.validActionsNoRep := by
  unfold memNoRepB
  cases hph : s.phase with
  | place => simp only [decide_eq_true_eq, validActionsNoRep, validActions__place s hph]
  | play pp =>
    cases a with
    | pass => exact (pass_mem_validActions__iff s false).symm
    | place p => simp only [Bool.false_eq_true, false_iff]; exact validActions_play_notPlace s pp hph false p
    | move sq d =>
      rw [move_mem_noRep_iff s pp hph]
      unfold moveList
      cases hm : pp.pps.isMustCompletePush
      · simp only [hm, Bool.false_eq_true, if_false]
        rw [stepList, List.mem_append, mem_pullExtend, ← pushB_iff, ← pullB_iff, ← ownB_iff]
        simp only [Bool.or_eq_true]
        exact or_comm
      · simp only [hm, if_true]
        exact mcpB_iff s pp sq d

/-- the body of `move_piece` with the new board, the capture flag and the board part
`v = pieceBoardValue s.board nb` of the hash change as parameters (with `takeMove` left inside, the
unifier unfolds it in the proof of `takeActionK_eq` and does not come back); a copy of that body, kept in
step with it only by the `rfl` of `movePiece_eq_with` -/
def moveWith (s : GameState) (pp : PlayPhase) (sq : Nat) (d : Dir) (nb : Board) (tr : Bool) (v : BB) :
    GameState :=
  let cur := pp.step
  let last := decide (cur ≥ 3)
  let newTurn := if last then !s.p1Turn else s.p1Turn
  let newStep := if last then 0 else cur + 1
  let newMoveNo := s.moveNo + (if last && newTurn then 1 else 0)
  let nh := s.hash ^^^ (if s.p1Turn != newTurn then Z_PLAYER_TO_MOVE else 0) ^^^ v ^^^ stepValue cur newStep
  let hist := if tr then [] else pp.hist
  let npp : PlayPhase :=
    if last then PlayPhase.initial nh (nh :: hist)
    else
      { initHash := pp.initHash
        pps := s.nextPushPullState pp sq d
        hist := hist
        prev := pp.prev ++ [s.board]
        trapped := pp.trapped || tr }
  { p1Turn := newTurn, moveNo := newMoveNo, phase := .play npp, board := nb, hash := nh }

theorem movePiece_eq_with (s : GameState) (pp : PlayPhase) (hph : s.phase = .play pp) (sq : Nat)
    (d : Dir) :
    s.movePiece sq d = moveWith s pp sq d (s.board.takeMove sq d).1 (s.board.takeMove sq d).2
      (pieceBoardValue s.board (s.board.takeMove sq d).1) := by
  unfold movePiece moveWith
  rw [hph]
  rfl

def takeActionK (s : GameState) (a : Action) : GameState :=
  match s.phase, a with
  | .play pp, .move sq d =>
    match s.board.takeMove sq d with
    | (nb, tr) => moveWith s pp sq d nb tr (pieceBoardValueK s.board nb)
  | _, a => s.takeAction a

theorem takeActionK_eq (s : GameState) (a : Action) : takeActionK s a = s.takeAction a := by
  unfold takeActionK
  split
  · rename_i pp sq d hph
    simp only [pieceBoardValueK_eq]
    rw [← movePiece_eq_with s pp hph]
    rfl
  · rfl

/-- `a ∈ s.validActions`, given the hash `h'` of the state `a` leads to, without building the list
(which runs the repetition test on every candidate at a fourth step) -/
def memOfferedWith (s : GameState) (a : Action) (h' : BB) : Bool :=
  match s.phase with
  | .place => memNoRepB s a
  | .play pp => memNoRepB s a && !((a == .pass || pp.step == 3 && !pp.trapped) && repeatsHash pp h')

def memOfferedB (s : GameState) (a : Action) : Bool := memOfferedWith s a (takeActionK s a).hash

theorem memOfferedB_iff (s : GameState) (a : Action) : memOfferedB s a = true ↔ a ∈ s.validActions := by
  unfold memOfferedB
  rw [takeActionK_eq]
  unfold memOfferedWith
  cases hph : s.phase with
  | place =>
    rw [memNoRepB_iff, validActions, validActionsNoRep, validActions__place s hph, validActions__place s hph]
  | play pp =>
    rw [mem_validActions_iff s pp hph a, Bool.and_eq_true, Bool.not_eq_true', memNoRepB_iff]
    exact and_congr_right fun ha => by rw [withheld_eq_repeatsHash s pp hph a ha]

/-- for examples, which switch it on by `attribute [local instance]` -/
@[reducible] def decNoRep (s : GameState) (a : Action) : Decidable (a ∈ s.validActionsNoRep) :=
  decidable_of_iff _ (memNoRepB_iff s a)

@[reducible] def decOffered (s : GameState) (a : Action) : Decidable (a ∈ s.validActions) :=
  decidable_of_iff _ (memOfferedB_iff s a)

def offeredB (s : GameState) : List Action → Bool
  | [] => true
  | a :: as => memOfferedB s a && offeredB (s.takeAction a) as

theorem offered_of_offeredB (s : GameState) (as : List Action) (h : offeredB s as = true) :
    Offered s as := by
  induction as generalizing s with
  | nil => trivial
  | cons a as ih =>
    simp only [offeredB, Bool.and_eq_true, memOfferedB_iff] at h
    exact ⟨h.1, ih _ h.2⟩

def replayK (s : GameState) (G : List (Board × Bool)) (ok : Bool) :
    List Action → GameState × List (Board × Bool) × Bool
  | [] => (s, G, ok)
  | a :: as =>
    let s' := takeActionK s a
    replayK s' (if endsTurnAt s a then G ++ [posOf s'] else G) (ok && memOfferedWith s a s'.hash) as

theorem replayK_eq (s : GameState) (G : List (Board × Bool)) (ok : Bool) (as : List Action) :
    replayK s G ok as = (s.run as, turnStartsFrom s G as, ok && offeredB s as) := by
  induction as generalizing s G ok with
  | nil => simp [replayK, turnStartsFrom, offeredB]
  | cons a as ih =>
    simp only [replayK, ih, takeActionK_eq, run_cons, turnStartsFrom, offeredB, memOfferedB, ghostStep,
      Bool.and_assoc]

def replayB (b : Board) (g : Bool) (n : Nat) (as : List Action)
    (p : GameState → List (Board × Bool) → Bool) : Bool :=
  match replayK (startK b g n) [(b, g)] true as with
  | (s, G, ok) => ok && p s G

/-- For a goal about `s0.run as` and `turnStarts s0 as`: `generalize hs : s0.run as = s`,
`generalize hG : turnStarts s0 as = G`, then `apply` finds `P` and one evaluation decides it. -/
theorem replay_all {P : GameState → List (Board × Bool) → Prop} [∀ s G, Decidable (P s G)]
    {s0 s : GameState} {as : List Action} {G : List (Board × Bool)} (h0 : StartOk s0)
    (hs : s0.run as = s) (hG : turnStarts s0 as = G)
    (h : replayB s0.board s0.p1Turn s0.moveNo as (fun s G => decide (P s G)) = true) :
    Offered s0 as ∧ P s G := by
  rw [replayB, startK_eq s0 h0, replayK_eq] at h
  simp only [Bool.true_and, Bool.and_eq_true, decide_eq_true_eq] at h
  subst hs hG
  exact ⟨offered_of_offeredB _ _ h.1, h.2⟩

theorem replay_prop {P : GameState → List (Board × Bool) → Prop} [∀ s G, Decidable (P s G)]
    {s0 s : GameState} {as : List Action} {G : List (Board × Bool)} (h0 : StartOk s0)
    (hs : s0.run as = s) (hG : turnStarts s0 as = G)
    (h : replayB s0.board s0.p1Turn s0.moveNo as (fun s G => decide (P s G)) = true) : P s G :=
  (replay_all h0 hs hG h).2

theorem replay_offered {s0 : GameState} {as : List Action} (h0 : StartOk s0)
    (h : replayB s0.board s0.p1Turn s0.moveNo as (fun _ _ => true) = true) : Offered s0 as :=
  (replay_all (P := fun _ _ => True) h0 rfl rfl (by simpa using h)).1

def collisionFreeB (G : List (Board × Bool)) (rs : List Board) : Bool :=
  rs.all fun nb => G.all fun p => [true, false].all fun sd =>
    zPosK p.1 p.2 != zPosK nb sd || decide (p = (nb, sd))

theorem collisionFreeB_iff (G : List (Board × Bool)) (rs : List Board) :
    collisionFreeB G rs = true ↔ CollisionFree G rs := by
  unfold collisionFreeB CollisionFree
  simp only [zPosK_eq, List.all_eq_true, List.mem_cons, List.not_mem_nil, or_false, forall_eq_or_imp,
    forall_eq, Bool.or_eq_true, bne_iff_ne, ne_eq, decide_eq_true_eq, Bool.forall_bool]
  exact forall₂_congr fun _ _ => forall₂_congr fun _ _ => by
    rw [and_comm, Decidable.imp_iff_not_or, Decidable.imp_iff_not_or]

@[reducible] def decCollisionFree (G : List (Board × Bool)) (rs : List Board) : Decidable (CollisionFree G rs) :=
  decidable_of_iff _ (collisionFreeB_iff G rs)

end Arimaa
