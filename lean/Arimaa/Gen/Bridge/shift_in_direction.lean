-- GENERATED by /verif/tools/gen.py -- do not edit.  Bridge from the current text of `shift_in_direction` to the baseline text.
import Arimaa.Gen.Rs
import Arimaa.Gen.RsBase
import Arimaa.Gen.BridgeLadder

namespace Arimaa.Gen.Bridge
open Arimaa Arimaa.Gen Arimaa.Rt

set_option maxHeartbeats 1000000 in
theorem bridge_shift_in_direction : @Rs.shift_in_direction = @RsBase.shift_in_direction := by
  funext a0 a1
  rs_ladder [Rs.shift_in_direction, RsBase.shift_in_direction] [] (cases a1) [Rs.shift_in_direction, RsBase.shift_in_direction]

end Arimaa.Gen.Bridge
