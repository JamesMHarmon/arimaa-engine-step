import Arimaa.Lemmas.Bits
import Arimaa.Lemmas.Lexical

/-!
The notation of actions, squares, pieces and directions (C16): each parser accepts exactly the printed forms (a piece
letter also in upper case, `parsePiece_upper`).
Squares are handled by arithmetic on character codes (characters are compared through `Char.toNat`), the letter
tables case by case.
-/
namespace Arimaa
open Gen

theorem toNat_ofNat_lt (n : Nat) (h : n < 0xd800) : (Char.ofNat n).toNat = n := by
  unfold Char.ofNat
  rw [dif_pos (Or.inl h)]
  rfl

theorem pieceOfChar_some (c : Char) (p : Piece) (h : pieceOfChar c = some p) :
    c = pieceLetter p ∨ c = (pieceLetter p).toUpper := by
  unfold pieceOfChar at h
  split at h <;> cases h <;> decide

theorem dirOfChar_some (c : Char) (d : Dir) (h : dirOfChar c = some d) : c = dirLetter d := by
  unfold dirOfChar at h
  split at h <;> cases h <;> rfl

theorem pieceOfChar_letter (p : Piece) : pieceOfChar (pieceLetter p) = some p := by
  cases p <;> rfl

theorem pieceOfChar_upper (p : Piece) : pieceOfChar (pieceLetter p).toUpper = some p := by
  cases p <;> rfl

theorem pieceUpperLetter_eq (p : Piece) : pieceUpperLetter p = (pieceLetter p).toUpper := by
  cases p <;> rfl

/-- the letter tables generated from piece.rs and from display.rs are the same function -/
theorem pieceOfChar_eq_charToPiece : pieceOfChar = charToPiece := by
  funext c; unfold pieceOfChar charToPiece; rfl

theorem dirOfChar_letter (d : Dir) : dirOfChar (dirLetter d) = some d := by
  cases d <;> rfl

theorem pieceLetter_ne_p (p : Piece) : pieceLetter p ≠ 'p' := by cases p <;> decide

theorem parsePiece_showPiece (p : Piece) : parsePiece (showPiece p) = .ok p := by
  simp [parsePiece, showPiece, pieceOfChar_letter]

theorem parsePiece_upper (p : Piece) : parsePiece [(pieceLetter p).toUpper] = .ok p := by
  simp [parsePiece, pieceOfChar_upper]

theorem parseDir_showDir (d : Dir) : parseDir (showDir d) = .ok d := by
  simp [parseDir, showDir, dirOfChar_letter]

theorem parsePiece_ok (t : List Char) (p : Piece) (h : parsePiece t = .ok p) :
    t = showPiece p ∨ t = [(pieceLetter p).toUpper] := by
  unfold parsePiece at h
  split at h
  · rename_i c
    split at h
    · rename_i q hq
      cases h
      rcases pieceOfChar_some c p hq with h | h <;> simp [showPiece, h]
    · cases h
  · cases h

theorem parseDir_ok (t : List Char) (d : Dir) (h : parseDir t = .ok d) : t = showDir d := by
  unfold parseDir at h
  split at h
  · rename_i c
    split at h
    · rename_i q hq
      cases h
      simp [showDir, dirOfChar_some c d hq]
    · cases h
  · cases h

theorem sqColumnChar_toNat (sq : Nat) : (sqColumnChar sq).toNat = 97 + sq % 8 :=
  toNat_ofNat_lt _ (by unfold ASCII_LETTER_A BOARD_WIDTH; omega)

theorem add_mul8 (i k : Nat) (hi : i < 8) : (i + k * 8) % 8 = i ∧ (i + k * 8) / 8 = k :=
  ⟨by rw [Nat.add_mul_mod_self_right, Nat.mod_eq_of_lt hi],
    by rw [Nat.add_mul_div_right _ _ (by decide), Nat.div_eq_of_lt hi, Nat.zero_add]⟩

/-! `Square::new` and (`column_char`, `row`) are inverse to each other between the 64 squares and file letters
`a..h` with ranks `1..8`; the text round trip of squares is this bijection with a range check in front. -/

theorem sqNew_column_row (sq : Nat) (h : sq < 64) : sqNew (sqColumnChar sq) (sqRow sq) = sq := by
  simp only [sqNew, sqRow, sqColumnChar_toNat, show ASCII_LETTER_A = 97 from rfl, board_width_eq,
    board_height_eq]
  rw [Nat.add_sub_cancel_left, Nat.sub_sub_self (by omega), Nat.mod_add_div']

theorem sqNew_inverse (column : Char) (r : Nat) (hc : 97 ≤ column.toNat ∧ column.toNat ≤ 104)
    (hr : 1 ≤ r ∧ r ≤ 8) :
    sqNew column r < 64 ∧ sqColumnChar (sqNew column r) = column ∧ sqRow (sqNew column r) = r := by
  obtain ⟨h1, h2⟩ := add_mul8 (column.toNat - 97) (8 - r) (by omega)
  simp only [sqNew, sqColumnChar, sqRow, show ASCII_LETTER_A = 97 from rfl, board_width_eq, board_height_eq,
    h1, h2]
  exact ⟨by omega, by rw [Nat.add_sub_cancel' hc.1, Char.ofNat_toNat], Nat.sub_sub_self hr.2⟩

theorem showSquare_eq (sq : Nat) : showSquare sq = [sqColumnChar sq, Char.ofNat (48 + sqRow sq)] := by
  unfold showSquare
  rw [natDigits_lt10 _ (show sqRow sq < 10 from
    Nat.lt_succ_of_le (Nat.le_succ_of_le (Nat.sub_le _ _)))]

theorem parseSquare_eq (column row : Char) :
    parseSquare [column, row] =
      if (97 ≤ column.toNat ∧ column.toNat ≤ 104) ∧ 1 ≤ row.toNat - 48 ∧ row.toNat - 48 ≤ 8 then
        .ok (sqNew column (row.toNat - 48))
      else .err := by
  have e1 : (Char.ofNat ASCII_LETTER_A).toNat = 97 := rfl
  have e2 : (Char.ofNat (ASCII_LETTER_A + BOARD_WIDTH - 1)).toNat = 104 := rfl
  have e3 : '0'.toNat = 48 := rfl
  have e4 : '9'.toNat = 57 := rfl
  simp only [parseSquare, parseDigitChar, char_le_iff, e1, e2, e3, e4, board_height_eq]
  by_cases hd : 48 ≤ row.toNat ∧ row.toNat ≤ 57
  · rw [if_pos hd]
    exact ite_congr (propext (by omega)) (fun _ => rfl) (fun _ => rfl)
  · rw [if_neg hd, if_neg (by omega)]

theorem parseSquare_showSquare (sq : Nat) (h : sq < 64) : parseSquare (showSquare sq) = .ok sq := by
  have hr : 1 ≤ sqRow sq ∧ sqRow sq ≤ 8 := by unfold sqRow BOARD_HEIGHT BOARD_WIDTH; omega
  rw [showSquare_eq, parseSquare_eq, sqColumnChar_toNat, toNat_ofNat_lt _ (by omega),
    Nat.add_sub_cancel_left, if_pos ⟨by omega, hr⟩, sqNew_column_row sq h]

theorem parseSquare_ok (t : List Char) (sq : Nat) (h : parseSquare t = .ok sq) :
    sq < 64 ∧ t = showSquare sq := by
  obtain ⟨column, row, rfl⟩ : ∃ column row, t = [column, row] := by
    unfold parseSquare at h
    split at h
    · exact ⟨_, _, rfl⟩
    · cases h
  rw [parseSquare_eq] at h
  split at h
  · rename_i hc
    cases h
    obtain ⟨hlt, e1, e2⟩ := sqNew_inverse column _ hc.1 hc.2
    rw [showSquare_eq, e1, e2, Nat.add_sub_cancel' (by omega), Char.ofNat_toNat]
    exact ⟨hlt, rfl⟩
  · cases h

theorem parseAction_showAction (a : Action) (h : ∀ sq d, a = .move sq d → sq < 64) :
    parseAction (showAction a) = .ok a := by
  cases a with
  | pass => rfl
  | place p => cases p <;> rfl
  | move sq d =>
    have hs := h sq d rfl
    -- two explicit characters make the `[a, b, c]` case of `parseAction` fire; then fold back
    simp only [showAction, showSquare_eq sq, showDir, List.cons_append, List.nil_append, parseAction]
    rw [← showSquare_eq sq, parseSquare_showSquare sq hs]
    have := parseDir_showDir d
    simp only [showDir] at this
    simp only [this]

theorem parseAction_ok (t : List Char) (a : Action) (h : parseAction t = .ok a) :
    (∀ sq d, a = .move sq d → sq < 64) ∧
      (t = showAction a ∨ ∃ p, a = .place p ∧ t = [(pieceLetter p).toUpper]) := by
  unfold parseAction at h
  split at h
  · rename_i c
    split at h
    · rename_i hc
      cases h
      exact ⟨fun _ _ e => Action.noConfusion e, .inl (by simp [showAction, hc])⟩
    · split at h
      · rename_i p hp
        cases h
        refine ⟨fun _ _ e => Action.noConfusion e, ?_⟩
        rcases parsePiece_ok _ _ hp with h | h
        · left; simp [showAction, h]
        · right; exact ⟨p, rfl, h⟩
      · cases h
  · rename_i x y z
    split at h
    · rename_i sq hsq
      split at h
      · rename_i d hd
        cases h
        obtain ⟨hlt, h1⟩ := parseSquare_ok _ _ hsq
        refine ⟨fun _ _ e => by cases e; exact hlt, .inl ?_⟩
        have h2 := parseDir_ok _ _ hd
        simp only [showAction, ← h1, ← h2]
        rfl
      · cases h
    · cases h
  · cases h

theorem parsePiece_no_panic (t : List Char) : parsePiece t ≠ .panic := by
  unfold parsePiece; split
  · split <;> simp
  · simp

theorem parseDir_no_panic (t : List Char) : parseDir t ≠ .panic := by
  unfold parseDir; split
  · split <;> simp
  · simp

theorem parseSquare_no_panic (t : List Char) : parseSquare t ≠ .panic := by
  unfold parseSquare; split
  · split
    · split <;> simp
    · simp
  · simp

theorem parseAction_no_panic (t : List Char) : parseAction t ≠ .panic := by
  unfold parseAction; split
  · split
    · simp
    · split <;> simp
  · split
    · split <;> simp
    · simp
  · simp

end Arimaa
