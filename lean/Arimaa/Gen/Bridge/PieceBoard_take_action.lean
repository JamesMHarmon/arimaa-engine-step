-- GENERATED by /verif/tools/gen.py -- do not edit.  Bridge from the current text of `PieceBoard::take_action` to the baseline text.
import Arimaa.Gen.Rs
import Arimaa.Gen.RsBase
import Arimaa.Gen.BridgeLadder
import Arimaa.Gen.Bridge.PieceBoard_move_piece
import Arimaa.Gen.Bridge.PieceBoard_remove_trapped_pieces

namespace Arimaa.Gen.Bridge
open Arimaa Arimaa.Gen Arimaa.Rt

set_option maxHeartbeats 1000000 in
theorem bridge_PieceBoard_take_action : @Rs.PieceBoard_take_action = @RsBase.PieceBoard_take_action := by
  funext a0 a1
  rs_ladder [Rs.PieceBoard_take_action, RsBase.PieceBoard_take_action, bridge_PieceBoard_move_piece, bridge_PieceBoard_remove_trapped_pieces] [RsBase.PieceBoard_move_piece, RsBase.PieceBoard_remove_trapped_pieces] (skip) [Rs.PieceBoard_take_action, RsBase.PieceBoard_take_action, Rs.PieceBoardState_trapped_piece_bits, Rs.PieceBoard_move_piece, Rs.PieceBoard_remove_trapped_pieces, Rs.animal_is_on_trap, Rs.both_player_supported_pieces, Rs.both_player_unsupported_piece_bits, Rs.shift_in_direction, Rs.shift_piece_in_direction, Rs.supported_pieces, RsBase.PieceBoardState_trapped_piece_bits, RsBase.PieceBoard_move_piece, RsBase.PieceBoard_remove_trapped_pieces, RsBase.animal_is_on_trap, RsBase.both_player_supported_pieces, RsBase.both_player_unsupported_piece_bits, RsBase.shift_in_direction, RsBase.shift_piece_in_direction, RsBase.supported_pieces]

end Arimaa.Gen.Bridge
