/-!
A walk over a list with a running index that may stop early: `IdxLoop f step` says that `f` is such a loop with
body `step`.  When such a loop fails and what it accumulates is proved for any `step`; the two loops of the diagram
parser are instances, and their agreement with the translated `for .. in .. .enumerate()` loops rests on the same two
equations.
-/
namespace Arimaa

theorem exists_cons_index {α : Type} (a : α) (l : List α) (P : Nat → α → Prop) :
    (∃ k ch, (a :: l)[k]? = some ch ∧ P k ch) ↔ P 0 a ∨ ∃ k ch, l[k]? = some ch ∧ P (k + 1) ch := by
  constructor
  · rintro ⟨k, ch, h1, h2⟩
    cases k with
    | zero => cases h1; exact Or.inl h2
    | succ k => exact Or.inr ⟨k, ch, h1, h2⟩
  · rintro (h | ⟨k, ch, h1, h2⟩)
    · exact ⟨0, a, rfl, h⟩
    · exact ⟨k + 1, ch, h1, h2⟩

structure IdxLoop {α σ : Type} (f : List α → Nat → σ → Option σ) (step : Nat → α → σ → Option σ) : Prop where
  nil : ∀ k s, f [] k s = some s
  cons : ∀ a l k s, f (a :: l) k s = (step k a s).bind (f l (k + 1))

namespace IdxLoop
variable {α σ : Type} {f : List α → Nat → σ → Option σ} {step : Nat → α → σ → Option σ}

theorem none_iff_from (hf : IdxLoop f step) {bad : Nat → α → Prop}
    (hbad : ∀ k a s, step k a s = none ↔ bad k a) (l : List α) (k : Nat) (s : σ) :
    f l k s = none ↔ ∃ j a, l[j]? = some a ∧ bad (k + j) a := by
  induction l generalizing k s with
  | nil => simp [hf.nil]
  | cons a l ih =>
    rw [hf.cons, exists_cons_index]
    simp only [Nat.add_zero, ← hbad k a s]
    cases step k a s with
    | none => simp
    | some s1 => simp only [Option.bind_some, ih, reduceCtorEq, false_or, Nat.add_assoc, Nat.add_comm 1]

theorem acc_from (hf : IdxLoop f step) {M : σ → Prop} {C : Nat → α → Prop}
    (hacc : ∀ k a s s', step k a s = some s' → (M s' ↔ M s ∨ C k a)) (l : List α) (k : Nat) (s s' : σ)
    (h : f l k s = some s') : M s' ↔ M s ∨ ∃ j a, l[j]? = some a ∧ C (k + j) a := by
  induction l generalizing k s with
  | nil => rw [hf.nil] at h; cases h; simp
  | cons a l ih =>
    rw [hf.cons] at h
    obtain ⟨s1, h1, h2⟩ := Option.bind_eq_some_iff.mp h
    rw [ih _ _ h2, hacc k a s s1 h1, exists_cons_index]
    simp only [Nat.add_zero, or_assoc, Nat.add_assoc, Nat.add_comm 1]

theorem none_iff (hf : IdxLoop f step) {bad : Nat → α → Prop}
    (hbad : ∀ k a s, step k a s = none ↔ bad k a) (l : List α) (s : σ) :
    f l 0 s = none ↔ ∃ j a, l[j]? = some a ∧ bad j a := by
  simpa only [Nat.zero_add] using hf.none_iff_from hbad l 0 s

/-- a property `M` of the state that every step keeps, and sets exactly when `C k a`, holds after the loop iff it
held before or some element set it -/
theorem acc (hf : IdxLoop f step) {M : σ → Prop} {C : Nat → α → Prop}
    (hacc : ∀ k a s s', step k a s = some s' → (M s' ↔ M s ∨ C k a)) (l : List α) (s s' : σ)
    (h : f l 0 s = some s') : M s' ↔ M s ∨ ∃ j a, l[j]? = some a ∧ C j a := by
  simpa only [Nat.zero_add] using hf.acc_from hacc l 0 s s' h

end IdxLoop

end Arimaa
