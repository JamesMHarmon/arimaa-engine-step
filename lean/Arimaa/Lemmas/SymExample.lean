import Arimaa.Lemmas.SymTransfer

/-!
A concrete position, a short game from it, and model states for the position and its three images: witnesses for
the non-vacuity examples of C11.
-/
namespace Arimaa
open Spec

/-- Gold: rabbit a7, elephant d5, horse c3 (on a trap, held by the cat), cat c2.
Silver: rabbit c5 (frozen by the elephant), rabbit h2. -/
def exBoardSym : Spec.Board := fun k =>
  if k = 8 then some ⟨true, .rabbit⟩
  else if k = 26 then some ⟨false, .rabbit⟩
  else if k = 27 then some ⟨true, .elephant⟩
  else if k = 42 then some ⟨true, .horse⟩
  else if k = 50 then some ⟨true, .cat⟩
  else if k = 55 then some ⟨false, .rabbit⟩
  else none

/-- a turn of four steps: push c5 west with the elephant, cat c2 west (losing the horse), rabbit
to a8; then Silver's rabbit h2 steps to h1 -/
def exGame : List Act := [.move 26 .w, .move 27 .w, .move 50 .w, .move 8 .n, .move 55 .s]

/-! the position above and its three images as bitboards (fields: p1, all, elephants, camels, horses, dogs, cats,
rabbits) -/

def exModelBoard : Board :=
  ⟨0x4040008000100#64, 0x8404000c000100#64, 0x8000000#64, 0#64, 0x40000000000#64, 0#64,
    0x4000000000000#64, 0x80000004000100#64⟩

def exModelImage : Sym → Board
  | .mirror => ⟨0x20200010008000#64, 0x21200030008000#64, 0x10000000#64, 0#64, 0x200000000000#64, 0#64,
      0x20000000000000#64, 0x1000020008000#64⟩
  | .swap => ⟨0x400008000#64, 0x1000c00048400#64, 0x800000000#64, 0#64, 0x40000#64, 0#64, 0x400#64,
      0x1000400008000#64⟩
  | .both => ⟨0x2000000100#64, 0x80003000202100#64, 0x1000000000#64, 0#64, 0x200000#64, 0#64, 0x2000#64,
      0x80002000000100#64⟩

def exModelState (b : Board) (gold : Bool) : GameState :=
  { p1Turn := gold, moveNo := 1, phase := .play (PlayPhase.initial 0 []), board := b, hash := 0 }

theorem exModel_playInv (b : Board) (g : Bool) (hw : WF b) :
    PlayInv (exModelState b g) (PlayPhase.initial 0 []) :=
  ⟨rfl, hw, trivial, by decide⟩

theorem specBoard_ext (b b' : Spec.Board) (h : ∀ j : Fin 64, b j = b' j) (hb : ∀ k, 64 ≤ k → b k = none)
    (hb' : ∀ k, 64 ≤ k → b' k = none) : b = b' := by
  funext k
  by_cases hk : k < 64
  · exact h ⟨k, hk⟩
  · rw [hb k (Nat.le_of_not_lt hk), hb' k (Nat.le_of_not_lt hk)]

theorem exBoardSym_ge (k : Nat) (hk : 64 ≤ k) : exBoardSym k = none := by
  unfold exBoardSym
  repeat rw [if_neg (by omega)]

theorem exModel_abs : absBoard exModelBoard = exBoardSym :=
  specBoard_ext _ _ (by decide +kernel) (absBoard_ge _) exBoardSym_ge

theorem exModel_rel (σ : Sym) :
    PlayInv (exModelState exModelBoard true) (PlayPhase.initial 0 []) ∧
    PlayInv (exModelState (exModelImage σ) (σ.col true)) (PlayPhase.initial 0 []) ∧
    SymRel σ (exModelState exModelBoard true) (PlayPhase.initial 0 [])
      (exModelState (exModelImage σ) (σ.col true)) (PlayPhase.initial 0 []) := by
  refine ⟨exModel_playInv _ _ (wf_of_wfWords _ (by decide +kernel)),
    exModel_playInv _ _ (wf_of_wfWords _ ?_),
    ⟨?_, rfl, rfl, rfl⟩⟩
  · cases σ <;> decide +kernel
  · show absBoard (exModelImage σ) = σ.board (absBoard exModelBoard)
    rw [exModel_abs]
    exact specBoard_ext _ _ (by cases σ <;> decide +kernel) (absBoard_ge _) (σ.board_ge _ exBoardSym_ge)

end Arimaa
