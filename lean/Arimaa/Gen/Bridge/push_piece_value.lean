-- GENERATED by /verif/tools/gen.py -- do not edit.  Bridge from the current text of `push_piece_value` to the baseline text.
import Arimaa.Gen.Rs
import Arimaa.Gen.RsBase
import Arimaa.Gen.BridgeLadder

namespace Arimaa.Gen.Bridge
open Arimaa Arimaa.Gen Arimaa.Rt

set_option maxHeartbeats 1000000 in
theorem bridge_push_piece_value : @Rs.push_piece_value = @RsBase.push_piece_value := by
  funext a0 a1
  rs_ladder [Rs.push_piece_value, RsBase.push_piece_value] [] (cases a1) [Rs.push_piece_value, RsBase.push_piece_value]

end Arimaa.Gen.Bridge
