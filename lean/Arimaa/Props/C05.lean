import Arimaa.Lemmas.Replay
import Arimaa.Lemmas.SetupStart

/-!
# C05 — no completed turn leaves the board unchanged or makes a third occurrence

Property text: in every game played through offered actions, whenever a turn ends (by a pass or by
its fourth step) the resulting board differs from the board at the start of that turn, and the
resulting combination of board and side to move has occurred at most once before at a start of turn
since the play phase began (or since the position was parsed).

Both clauses are proved at FULL strength: for every start state `s0` (`StartOk`: play phase, step 0,
fresh record, `hash = initHash = only history entry = from-scratch hash`, board well-formed — what
`from_str` yields (`C05_start_of_any_parse`, Props/C05b.lean) and what the 32nd offered placement
from `GameState::initial()` yields), every action list `as` of any length all of whose actions are
offered (`Offered`, i.e. members of `validActions` where they are taken), with captures anywhere.
No hypothesis about hash collisions is needed: only "equal positions have equal hashes" is used.

The positions compared are ghost values, obtained by re-running the actions on the model:
`turnStarts s0 as` is the list of exact (board, side to move) pairs at every start of turn so far,
oldest first — `s0`'s own position, then the position after every turn-ending action of `as`
(`endsTurnAt`: a pass, or a step taken when three steps are already made); `turnStartBoard s0 as` is
the board of its last entry, which coincides with the engine's own `piece_board_for_step(0)`.
-/
namespace Arimaa
open GameState

/-- Before any action the list of turn starts is just the start position. -/
theorem C05_turnStarts_nil (s0 : GameState) : turnStarts s0 [] = [(s0.board, s0.p1Turn)] := rfl

/-- One more action: if it ends the turn (pass / fourth step) the position it leads to is appended,
otherwise the list is unchanged. -/
theorem C05_turnStarts_snoc (s0 : GameState) (as : List Action) (a : Action) :
    turnStarts s0 (as ++ [a]) =
      if endsTurnAt (s0.run as) a then
        turnStarts s0 as ++ [((s0.run (as ++ [a])).board, (s0.run (as ++ [a])).p1Turn)]
      else turnStarts s0 as :=
  turnStarts_snoc s0 as a

/-- The ghost "board at the start of the current turn" is what the engine itself reports as
`piece_board_for_step(0)` (the first board it recorded for this turn), at every state of a game
played through actions of the rule-only list (in particular through offered actions). -/
theorem C05_turnStartBoard_is_step0_board (s0 : GameState) (h0 : StartOk s0) (as : List Action)
    (ho : OfferedNR s0 as) : turnStartBoard s0 as = (s0.run as).pieceBoardForStep 0 := by
  obtain ⟨pp, h⟩ := histInv_game s0 h0 as ho
  exact h.pieceBoardForStep_zero.symm

/-- The last entry of the list of turn starts is the start of the current turn: its side is the
side to move now. -/
theorem C05_turnStarts_last (s0 : GameState) (h0 : StartOk s0) (as : List Action)
    (ho : OfferedNR s0 as) :
    (turnStarts s0 as).getLast? = some (turnStartBoard s0 as, (s0.run as).p1Turn) := by
  obtain ⟨pp, h⟩ := histInv_game s0 h0 as ho
  exact h.last

/-- A position parsed from text whose board is well-formed is a start state.  (Every parsed board is
well-formed: `C05_start_of_any_parse`, Props/C05b.lean, has no side condition.) -/
theorem C05_start_of_parse (t : List Char) (s : GameState) (h : parseState t = .ok s)
    (hw : WF s.board) : StartOk s :=
  (startOk_iff s).mpr ⟨hw, parseState_eq_diagramState t s h⟩

/-- The state after the 32nd offered placement from `GameState::initial()` ("since the play phase
began") is a start state: its hash, `initHash` and only history entry are the from-scratch hash of its
board with Gold to move, and the board is well-formed. -/
theorem C05_start_of_setup {ps : List Piece} {s : GameState} (hr : SetupRun ps s)
    (h32 : ps.length = 32) : StartOk s :=
  setupRun_startOk hr h32

/-- both clauses are `no_repeat_of_offered` under the invariant `HistInv` of the game `as` -/
private theorem C05_both (s0 : GameState) (h0 : StartOk s0) (as : List Action) (a : Action)
    (ho : Offered s0 (as ++ [a])) (hend : endsTurnAt (s0.run as) a = true) :
    (s0.run (as ++ [a])).board ≠ turnStartBoard s0 as ∧
      (turnStarts s0 as).count ((s0.run (as ++ [a])).board, (s0.run (as ++ [a])).p1Turn) ≤ 1 := by
  obtain ⟨ho1, ho2⟩ := (offered_append s0 as [a]).mp ho
  obtain ⟨pp, h⟩ := histInv_game s0 h0 as (offered_offeredNR s0 as ho1)
  rw [endsTurnAt_play _ pp h.inv.phase] at hend
  have := (not_repeats_iff _ _).mp (no_repeat_of_offered _ _ pp h a ho2.1 hend)
  rw [run_append]
  exact this

/-- **First clause, full strength.**  In a game from a start state in which every action was
offered, if the last action `a` ends the turn (a pass, or the fourth step), the board it leads to
differs from the board at the start of that turn.  Covers both code paths (`can_pass(true)` for the
pass, `remove_passing_like_actions` for the fourth step) and turns containing captures (where the
fourth-step filter is switched off). -/
theorem C05_turn_changes_board (s0 : GameState) (h0 : StartOk s0) (as : List Action) (a : Action)
    (ho : Offered s0 (as ++ [a])) (hend : endsTurnAt (s0.run as) a = true) :
    (s0.run (as ++ [a])).board ≠ turnStartBoard s0 as :=
  (C05_both s0 h0 as a ho hend).1

/-- **Second clause, full strength.**  Under the same hypotheses the resulting combination of
board and side to move occurs at most once among all starts of turn so far (from the start state up
to and including the start of the turn that just ended), exact boards compared — although the engine
only compares 64-bit hashes and forgets its hash history at captures. -/
theorem C05_at_most_twice (s0 : GameState) (h0 : StartOk s0) (as : List Action) (a : Action)
    (ho : Offered s0 (as ++ [a])) (hend : endsTurnAt (s0.run as) a = true) :
    (turnStarts s0 as).count ((s0.run (as ++ [a])).board, (s0.run (as ++ [a])).p1Turn) ≤ 1 :=
  (C05_both s0 h0 as a ho hend).2

/-- **Corollary: no third occurrence, ever.**  In every game played through offered actions, no
(board, side to move) combination occurs more than twice among the starts of turn. -/
theorem C05_no_third_occurrence (s0 : GameState) (h0 : StartOk s0) (as : List Action)
    (ho : Offered s0 as) (p : Board × Bool) : (turnStarts s0 as).count p ≤ 2 := by
  induction as using List.snoc_induction with
  | nil => rw [turnStarts_nil]; exact Nat.le_trans List.count_le_length (by simp)
  | snoc as a ih =>
    have ih' := ih ((offered_append s0 as [a]).mp ho).1
    rw [turnStarts_snoc]
    cases hend : endsTurnAt (s0.run as) a
    · simpa using ih'
    · have h2 := C05_at_most_twice s0 h0 as a ho hend
      rw [if_pos rfl, List.count_append, List.count_singleton]
      split
      · next e => rw [← beq_iff_eq.mp e]; exact Nat.succ_le_succ h2
      · exact ih'

/-- **What the engine's repetition bookkeeping holds, at every state of every game** played through
actions of the rule-only list from a start state: (i) `hash` is the from-scratch hash of board, side
and step; (ii) `initHash` is the from-scratch hash (step 0) of the board at the start of the turn
with the side to move; (iii) `hist` is, newest first, the list of from-scratch hashes of a suffix
`recent` of the starts of turn — empty if a capture happened in the current turn; (iv) every start
of turn outside `recent` has strictly more pieces on its board than the current board, every one in
`recent` at least as many. -/
theorem C05_hash_bookkeeping (s0 : GameState) (h0 : StartOk s0) (as : List Action)
    (ho : OfferedNR s0 as) :
    ∃ pp, (s0.run as).phase = .play pp ∧
      (s0.run as).hash = zFromPieceBoard (s0.run as).board (s0.run as).p1Turn pp.step ∧
      pp.initHash = zFromPieceBoard (turnStartBoard s0 as) (s0.run as).p1Turn 0 ∧
      ∃ old recent, turnStarts s0 as = old ++ recent ∧
        pp.hist = (recent.map (fun p => zFromPieceBoard p.1 p.2 0)).reverse ∧
        (∀ p ∈ old, popcount (s0.run as).board.all < popcount p.1.all) ∧
        (∀ p ∈ recent, popcount (s0.run as).board.all ≤ popcount p.1.all) ∧
        (pp.trapped = true → recent = []) := by
  obtain ⟨pp, h⟩ := histInv_game s0 h0 as ho
  obtain ⟨old, recent, hG, hh, hold, hrec⟩ := h.recent
  refine ⟨pp, h.inv.phase, h.hash, h.init, old, recent, hG, hh, hold, hrec, fun ht => ?_⟩
  rw [h.trapped ht, eq_comm, List.reverse_eq_nil_iff, List.map_eq_nil_iff] at hh
  exact hh

attribute [local instance] decNoRep decOffered

/-- Gold elephant on e4 (square 36), Silver elephant on b7 (square 9). -/
private def exB : Board := Board.new (sqBit 36) (sqBit 36 ||| sqBit 9) 0 0 0 0 0

/-- Gold to move at the start of a turn, as `from_str` would produce it. -/
private def ex0 : GameState :=
  { p1Turn := true, moveNo := 2, board := exB, hash := zPos exB true
    phase := .play (PlayPhase.initial (zPos exB true) [zPos exB true]) }

private theorem ex0_start : StartOk ex0 := ⟨wf_of_wfWords _ (by decide +kernel), rfl, rfl⟩

/-- a there-and-back turn: e4 north, e5 south, e4 north -/
private def exThere : List Action := [.move 36 .up, .move 28 .down, .move 36 .up]

private theorem exThere_offered : Offered ex0 exThere := replay_offered ex0_start (by decide +kernel)

/-- After e4n e5s e4n the closing fourth step e5s would restore the board the turn started with:
the rules allow it, the engine withholds it — and another fourth step (e5n) is offered. -/
example :
    Action.move 28 .down ∈ (ex0.run exThere).validActionsNoRep ∧
    Action.move 28 .down ∉ (ex0.run exThere).validActions ∧
    ((ex0.run exThere).takeAction (.move 28 .down)).board = turnStartBoard ex0 exThere ∧
    Action.move 28 .up ∈ (ex0.run exThere).validActions := by
  unfold turnStartBoard
  generalize hs : ex0.run exThere = s
  generalize hG : turnStarts ex0 exThere = G
  apply replay_prop ex0_start hs hG
  decide +kernel

/-- After e4n e5s the pass would restore the turn-start board: withheld. -/
example :
    Action.pass ∈ (ex0.run [.move 36 .up, .move 28 .down]).validActionsNoRep ∧
    Action.pass ∉ (ex0.run [.move 36 .up, .move 28 .down]).validActions := by
  generalize hs : ex0.run [.move 36 .up, .move 28 .down] = s
  generalize hG : turnStarts ex0 [.move 36 .up, .move 28 .down] = G
  apply replay_prop ex0_start hs hG
  decide +kernel

/-- The theorems apply to a concrete offered turn end (the fourth step e5n after the there-and-back
prefix e4n e5s e4n): the hypotheses are satisfiable. -/
example : (ex0.run (exThere ++ [.move 28 .up])).board ≠ turnStartBoard ex0 exThere :=
  C05_turn_changes_board ex0 ex0_start exThere (.move 28 .up)
    (replay_offered ex0_start (by decide +kernel)) (by decide +kernel)

/-- Two full cycles of "Gold elephant north / Silver elephant south / back / back", each turn one
step and a pass: 15 actions, after which every position has occurred twice. -/
private def exCycle : List Action :=
  [.move 36 .up, .pass, .move 9 .down, .pass, .move 28 .down, .pass, .move 17 .up, .pass,
   .move 36 .up, .pass, .move 9 .down, .pass, .move 28 .down, .pass, .move 17 .up]

private theorem exCycle_facts :
    Offered ex0 exCycle ∧
    (turnStarts ex0 exCycle).count (exB, true) = 2 ∧
    ((ex0.run exCycle).takeAction .pass).board = exB ∧
    ((ex0.run exCycle).takeAction .pass).p1Turn = true ∧
    ((ex0.run exCycle).takeAction .pass).board ≠ turnStartBoard ex0 exCycle ∧
    Action.pass ∈ (ex0.run exCycle).validActionsNoRep ∧
    Action.pass ∉ (ex0.run exCycle).validActions := by
  unfold turnStartBoard
  generalize hs : ex0.run exCycle = s
  generalize hG : turnStarts ex0 exCycle = G
  apply replay_all ex0_start hs hG
  decide +kernel

private theorem exCycle_offered : Offered ex0 exCycle := exCycle_facts.1

/-- After `exCycle` a pass would produce the start position with Gold to move for the THIRD time (it
occurs twice in the list of turn starts): the rules allow the pass, the engine withholds it; it does
not restore the turn-start board, so it is the history clause that fires. -/
example :
    (turnStarts ex0 exCycle).count (exB, true) = 2 ∧
    ((ex0.run exCycle).takeAction .pass).board = exB ∧
    ((ex0.run exCycle).takeAction .pass).p1Turn = true ∧
    ((ex0.run exCycle).takeAction .pass).board ≠ turnStartBoard ex0 exCycle ∧
    Action.pass ∈ (ex0.run exCycle).validActionsNoRep ∧
    Action.pass ∉ (ex0.run exCycle).validActions :=
  exCycle_facts.2

/-- an instance of `C05_no_third_occurrence`; its bound is attained (count 2 above) -/
example : (turnStarts ex0 exCycle).count (exB, true) ≤ 2 :=
  C05_no_third_occurrence ex0 ex0_start exCycle exCycle_offered _

/-- Gold cat on the trap c3 (42) supported only by the Gold rabbit on c2 (50); Silver rabbit on
b7 (9). -/
private def exCapB : Board :=
  Board.new (sqBit 42 ||| sqBit 50) 0 0 0 0 (sqBit 42) (sqBit 50 ||| sqBit 9)

private def exCap0 : GameState :=
  { p1Turn := true, moveNo := 2, board := exCapB, hash := zPos exCapB true
    phase := .play (PlayPhase.initial (zPos exCapB true) [zPos exCapB true]) }

private theorem exCap0_start : StartOk exCap0 := ⟨wf_of_wfWords _ (by decide +kernel), rfl, rfl⟩

/-- A turn with a capture: c2e (the cat on c3 is captured), d2w, c2e; then the fourth step d2w puts
the rabbit back on c2.  The capture flag is set, the engine's fourth-step filter is off and the step
is offered; the theorem still applies (the board differs from the turn-start board: the cat is
gone). -/
example :
    (exCap0.run ([.move 50 .right, .move 51 .left, .move 50 .right] ++ [.move 51 .left])).board ≠
      turnStartBoard exCap0 [.move 50 .right, .move 51 .left, .move 50 .right] :=
  C05_turn_changes_board exCap0 exCap0_start _ (.move 51 .left)
    (replay_offered exCap0_start (by decide +kernel)) (by decide +kernel)

/-- in that game the capture really happens and the rabbit really returns to c2 -/
example :
    (exCap0.run [.move 50 .right]).board.cats = 0 ∧
    (exCap0.run [.move 50 .right, .move 51 .left, .move 50 .right, .move 51 .left]).board.rabbits =
      exCapB.rabbits := by
  decide +kernel

end Arimaa
