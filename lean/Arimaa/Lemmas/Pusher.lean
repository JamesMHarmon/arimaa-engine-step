import Arimaa.Lemmas.Sim
import Arimaa.Lemmas.Displace

/-!
The pusher invariant: while a push of a piece of strength `t` off square `q` is pending, an unfrozen
friendly piece strictly stronger than `t` stands next to `q`.  It survives the displacement of the
pushed piece (`pusher_survives`): the square that gained an enemy piece is next to the vacated square,
like the pusher, and so not next to the pusher.  With "no unsupported trap piece" it is an invariant of
the specification machine alone (`Spec.State.PInv`), which the model keeps because it simulates that
machine (`playInvP_step`).
-/
namespace Arimaa
open Spec

theorem pusher_survives (b : Spec.Board) (gold : Bool) (i j : Nat) (c : Cell) (hb : NoHanging b)
    (hc : b i = some c) (hg : c.gold ≠ gold) (hej : b j = none)
    (d : Spec.Dir) (hn : nbr i d = some j) (s : Nat) (hp : hasPusher b gold i s = true) :
    hasPusher (capture (move b i j)) gold i s = true := by
  rw [hasPusher_iff] at hp ⊢
  obtain ⟨dx, x, cx, hnx, hbx, hxg, hxf, hxs⟩ := hp
  -- `x` and `j` are both next to `i`, so not next to each other
  have hadj : ∀ d', nbr x d' ≠ some j := fun d' h => nbrs_not_adjacent i x j dx d d' hnx hn h
  obtain ⟨h1, h2⟩ := unfrozen_displace b hb i j x c cx hc hej hadj (by rw [hxg]; exact Ne.symm hg)
    hbx hxf
  exact ⟨dx, x, cx, hnx, h1, hxg, h2, hxs⟩

def PusherOk (b : Spec.Board) (gold : Bool) : Pending → Prop
  | .push q v => hasPusher b gold q v.strength = true
  | _ => True

theorem pushEnd_of_pusher (b : Spec.Board) (gold : Bool) (q : Nat) (v : Spec.Piece) (hq : q < 64)
    (hqe : b q = none) (hp : hasPusher b gold q v.strength = true) :
    ∃ x d, x < 64 ∧ pushEnd b gold (.push q v) x d = true := by
  obtain ⟨d', x, cx, hnx, hbx, hg, hf, hs⟩ := (hasPusher_iff ..).1 hp
  exact ⟨x, d'.opp, nbr_lt q x d' hq hnx,
    (pushEnd_iff ..).2 ⟨cx, hbx, nbr_opp q x d' hq hnx, hqe, hg, hf, hs⟩⟩

def PlayInvP (s : GameState) (pp : PlayPhase) : Prop :=
  PlayInv s pp ∧ NoHanging (absBoard s.board) ∧ PusherOk (absBoard s.board) s.p1Turn (absPend pp.pps)

theorem playInvP_of_none (s : GameState) (pp : PlayPhase) (h : PlayInv s pp)
    (hno : NoHanging (absBoard s.board)) (hp : pp.pps = .none) : PlayInvP s pp := by
  refine ⟨h, hno, ?_⟩
  rw [hp]; trivial

def Spec.State.PInv (t : Spec.State) : Prop := NoHanging t.board ∧ PusherOk t.board t.gold t.pend

theorem Spec.State.PInv.next {t : Spec.State} (h : t.PInv) (a : Spec.Act) (ha : t.enabled a = true) :
    (t.next a).PInv := by
  refine ⟨t.noHanging_next h.1 a, ?_⟩
  cases a with
  | pass => trivial
  | move i d =>
    by_cases hlt : t.step < 3
    · rw [State.next_mid _ _ _ hlt]
      obtain ⟨c, j, hc, hn, hj, k⟩ := enabled_cases _ _ _ _ _ _ ((t.enabled_move_iff i d).1 ha).2
      show PusherOk (applyStep t.board i d) _ _
      rw [applyStep_eq _ i j d hn]
      cases k with
      | own _ _ _ e => rw [e]; split <;> trivial
      | pushEnd _ _ _ _ _ e | pullEnd _ _ _ _ _ e => rw [e]; trivial
      | pushStart hg _ _ _ hpu e =>
        -- the one kind of step that leaves a push pending is made because there is a pusher
        rw [e]
        exact pusher_survives t.board t.gold i j c h.1 hc hg hj d hn _ hpu
    · rw [State.next_last _ _ _ hlt]; trivial

theorem playInvP_step (s : GameState) (pp : PlayPhase) (h : PlayInvP s pp) (a : Action)
    (ha : a ∈ s.validActionsNoRep) : ∃ pp', PlayInvP (s.takeAction a) pp' := by
  -- `PlayInvP s pp` unfolds to `PlayInv s pp ∧ (absState s pp).PInv`; the second part goes along `sim_step`'s equation
  obtain ⟨a', pp', _, he, h', e⟩ := sim_step s pp h.1 a ha
  have hp : (absState (s.takeAction a) pp').PInv := e ▸ Spec.State.PInv.next (t := absState s pp) h.2 a' he
  exact ⟨pp', h', hp⟩

end Arimaa
