import Arimaa.Impl.Basic

/-!
Duplicate-freeness of a table of 64-bit values, decided by kernel evaluation: the list is split by
one bit after the other until every part has at most one member (about `n log n` steps on random
values; all arithmetic is on `Nat` literals, which the kernel computes natively).  Then what duplicate-freeness
gives: different members have different images, and a table whose flattening has no duplicate has none in a
row or in a column.
-/
namespace Arimaa

def bitAt (k x : Nat) : Bool := Nat.beq (Nat.land (Nat.shiftRight x k) 1) 1

def splitBit (k : Nat) : List Nat → List Nat × List Nat
  | [] => ([], [])
  | x :: xs =>
    match bitAt k x, splitBit k xs with
    | true, (a, b) => (x :: a, b)
    | false, (a, b) => (a, x :: b)

/-- the first argument is the number of low bits still to split on (`k + 1` splits on bit `k`): the
check succeeds iff the values differ pairwise in their low `k` bits, so it is sound for any values and
complete for values `< 2 ^ k`; callers pass the word width -/
def distinctN : Nat → List Nat → Bool
  | _, [] => true
  | _, [_] => true
  | 0, _ :: _ :: _ => false
  | k + 1, l@(_ :: _ :: _) => distinctN k (splitBit k l).1 && distinctN k (splitBit k l).2

theorem splitBit_eq (k : Nat) (l : List Nat) :
    splitBit k l = (l.filter (bitAt k), l.filter (fun x => !bitAt k x)) := by
  induction l with
  | nil => rfl
  | cons x xs ih =>
    rw [splitBit, ih, List.filter_cons, List.filter_cons]
    cases bitAt k x <;> rfl

theorem nodup_of_filter {α : Type} (p : α → Bool) (l : List α) (h₁ : (l.filter p).Nodup)
    (h₂ : (l.filter (fun a => !p a)).Nodup) : l.Nodup := by
  rw [← (List.filter_append_perm p l).nodup_iff, List.nodup_append]
  refine ⟨h₁, h₂, fun a ha b hb e => ?_⟩
  have hb' := (List.mem_filter.mp hb).2
  rw [← e, (List.mem_filter.mp ha).2] at hb'
  cases hb'

theorem distinctN_nodup : ∀ (k : Nat) (l : List Nat), distinctN k l = true → l.Nodup
  | _, [], _ => List.nodup_nil
  | _, [_], _ => List.pairwise_singleton _ _
  | 0, _ :: _ :: _, h => nomatch h
  | k + 1, a :: b :: l, h => by
    rw [distinctN, Bool.and_eq_true, splitBit_eq] at h
    exact nodup_of_filter (bitAt k) _ (distinctN_nodup k _ h.1) (distinctN_nodup k _ h.2)

theorem nodup_of_map {α β : Type} (f : α → β) (l : List α) (h : (l.map f).Nodup) : l.Nodup :=
  h.of_map f (fun _ _ hab e => hab (congrArg f e))

theorem nodup_of_distinctN (l : List BB) (h : distinctN 64 (l.map BitVec.toNat) = true) : l.Nodup :=
  nodup_of_map _ _ (distinctN_nodup _ _ h)

/-- "equal images only for equal members" holds on the diagonal and pairwise in both orders -/
theorem nodup_map_ne {α β : Type} (f : α → β) (l : List α) (h : (l.map f).Nodup) :
    ∀ a ∈ l, ∀ b ∈ l, a ≠ b → f a ≠ f b := fun _ ha _ hb hne e =>
  hne (List.Pairwise.forall_of_forall_of_flip (R := fun a b => f a = f b → a = b) (fun _ _ _ => rfl)
    ((List.pairwise_map.mp h).imp fun hab e => absurd e hab)
    ((List.pairwise_map.mp h).imp fun hab e => absurd e.symm hab) ha hb e)

theorem getD_mem {α : Type} (l : List α) (i : Nat) (d : α) (h : i < l.length) : l.getD i d ∈ l := by
  rw [List.getD_eq_getElem?_getD, List.getElem?_eq_getElem h]
  exact List.getElem_mem h

theorem getD_map {α β : Type} (f : α → β) (l : List α) (i : Nat) (d : α) :
    (l.map f).getD i (f d) = f (l.getD i d) := by
  rw [List.getD_eq_getElem?_getD, List.getD_eq_getElem?_getD, List.getElem?_map]
  cases l[i]? <;> rfl

theorem map_range_getD {α : Type} (l : List α) (d : α) :
    (List.range l.length).map (fun i => l.getD i d) = l := by
  apply List.ext_getElem (by simp)
  intro i h₁ h₂
  rw [List.getElem_map, List.getElem_range, List.getD_eq_getElem?_getD, List.getElem?_eq_getElem h₂]
  rfl

theorem nodup_row {α : Type} {t : List (List α)} (h : t.flatten.Nodup) (row : List α)
    (hr : row ∈ t) : row.Nodup :=
  (List.pairwise_flatten.mp h).1 row hr

/-- the entries of a column stand in different rows -/
theorem nodup_column {α : Type} {t : List (List α)} {z : α} (h : (z :: t.flatten).Nodup) (j : Nat)
    (d : α) (hj : ∀ row ∈ t, j < row.length) : (z :: t.map (fun row => row.getD j d)).Nodup := by
  rw [List.nodup_cons] at h ⊢
  have hmem : ∀ row ∈ t, row.getD j d ∈ row := fun row hr => getD_mem row j d (hj row hr)
  constructor
  · intro hz
    obtain ⟨row, hr, e⟩ := List.mem_map.mp hz
    exact h.1 (List.mem_flatten.mpr ⟨row, hr, e ▸ hmem row hr⟩)
  · exact List.pairwise_map.mpr ((List.pairwise_flatten.mp h.2).2.imp_of_mem
      (fun ha hb hab => hab _ (hmem _ ha) _ (hmem _ hb)))

end Arimaa
