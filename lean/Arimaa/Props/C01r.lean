import Arimaa.Props.C01
import Arimaa.Lemmas.CodeRuleOnly
import Arimaa.Lemmas.PanicPlay

/-!
C01 for the regenerated code (`Gen/Rs.lean`): the property for the functions themselves (result type `Res`: a value
or a panic), so that a change of the Rust text that alters behaviour breaks an obligation without a test having to
find the input.  C01 rests on the rule-only generators, not on the repetition filter.
-/
namespace Arimaa
open Spec Arimaa.Gen.Rs

theorem C01_code_rule_only_list (s : GameState) (pp : PlayPhase) (h : PlayInv s pp) :
    GameState_valid_actions_no_rep s = .ok s.validActionsNoRep :=
  RsAgree.ok_of_guard (Code.valid_actions_no_rep s) (validActions_Panics_false s pp h false)

/-- **C01 for the code as it is now**: a step is in the list the regenerated `valid_actions_no_rep` returns
iff the rules enable it -/
theorem C01_code_enabled_iff (s : GameState) (pp : PlayPhase) (h : PlayInv s pp) (l : List Action)
    (hl : GameState_valid_actions_no_rep s = .ok l) (i : Nat) (d : Dir) :
    Action.move i d ∈ l ↔
      i < 64 ∧ enabledMove (absBoard s.board) s.p1Turn pp.step (absPend pp.pps) i (dirSpec d) = true := by
  obtain rfl := Code.rule_only hl
  exact C01_enabled_iff s pp h i d

/-- C01 (ending the turn) for the code as it is now: `pass` is in the list the regenerated `valid_actions_no_rep`
returns iff the rules allow the turn to end -/
theorem C01_code_pass_iff (s : GameState) (pp : PlayPhase) (h : PlayInv s pp) (l : List Action)
    (hl : GameState_valid_actions_no_rep s = .ok l) :
    Action.pass ∈ l ↔ passEnabled pp.step (absPend pp.pps) = true := by
  obtain rfl := Code.rule_only hl
  exact C01_pass_iff s pp h.phase

/-- C01 (no duplicates) for the code as it is now: the list the regenerated `valid_actions_no_rep` returns offers no
action twice -/
theorem C01_code_nodup (s : GameState) (pp : PlayPhase) (h : PlayInv s pp) (l : List Action)
    (hl : GameState_valid_actions_no_rep s = .ok l) : l.Nodup := by
  obtain rfl := Code.rule_only hl
  exact C01_nodup s pp h

end Arimaa
