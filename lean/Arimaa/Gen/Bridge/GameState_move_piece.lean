-- GENERATED by /verif/tools/gen.py -- do not edit.  Bridge from the current text of `GameState::move_piece` to the baseline text.
import Arimaa.Gen.Rs
import Arimaa.Gen.RsBase
import Arimaa.Gen.BridgeLadder
import Arimaa.Gen.Bridge.GameState_current_step
import Arimaa.Gen.Bridge.GameState_next_piece_boards_this_move
import Arimaa.Gen.Bridge.GameState_next_push_pull_state
import Arimaa.Gen.Bridge.GameState_unwrap_play_phase
import Arimaa.Gen.Bridge.PieceBoard_take_action
import Arimaa.Gen.Bridge.PlayPhase_initial
import Arimaa.Gen.Bridge.Zobrist_move_piece

namespace Arimaa.Gen.Bridge
open Arimaa Arimaa.Gen Arimaa.Rt

set_option maxHeartbeats 1000000 in
theorem bridge_GameState_move_piece : @Rs.GameState_move_piece = @RsBase.GameState_move_piece := by
  funext a0 a1 a2
  rs_ladder [Rs.GameState_move_piece, RsBase.GameState_move_piece, bridge_GameState_current_step, bridge_GameState_next_piece_boards_this_move, bridge_GameState_next_push_pull_state, bridge_GameState_unwrap_play_phase, bridge_PieceBoard_take_action, bridge_PlayPhase_initial, bridge_Zobrist_move_piece] [RsBase.GameState_current_step, RsBase.GameState_next_piece_boards_this_move, RsBase.GameState_next_push_pull_state, RsBase.GameState_unwrap_play_phase, RsBase.PieceBoard_take_action, RsBase.PlayPhase_initial, RsBase.Zobrist_move_piece]

end Arimaa.Gen.Bridge
