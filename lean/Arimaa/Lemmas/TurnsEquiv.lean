import Arimaa.Lemmas.Displace
import Arimaa.Spec.Turns

/-!
The L2 step machine (`Spec.runTurn`) against the declarative L3 turn (`Spec.legalTurn`), unit by unit: the machine plays
the steps of a legal unit (`unit_run`), and the first move of an accepted list starts a legal unit (`first_unit`).  Both
assume `NoHanging b`: a unit reads its conditions before its first step, and a capture in between could remove a
supporter or the pusher.
-/
namespace Arimaa.TurnLemmas
open Spec

theorem noHanging_applySteps : ∀ (ms : List Mv) (b : Spec.Board), NoHanging b → NoHanging (applySteps b ms)
  | [], _, hb => hb
  | m :: ms, b, hb => noHanging_applySteps ms _ (noHanging_applyStep b hb m.1 m.2)

/-- One function with a flag, so that one induction serves both `accepted` (`fin = false`) and `mayEnd`
(`fin = true`). -/
def acc (fin gold : Bool) : Spec.Board → Nat → Pending → List Mv → Bool
  | _, _, pend, [] => !fin || !pend.isPush
  | b, step, pend, m :: ms =>
    decide (m.1 < 64) && enabledMove b gold step pend m.1 m.2 &&
      acc fin gold (applyStep b m.1 m.2) (step + 1) (nextPending b gold pend m.1 m.2) ms

theorem acc_eq_run (fin gold : Bool) : ∀ (ms : List Mv) (b : Spec.Board) (step : Nat) (pend : Pending),
    acc fin gold b step pend ms =
      match runTurn b gold step pend ms with
      | some p => !fin || !p.isPush
      | none => false := by
  intro ms
  induction ms with
  | nil => intro b step pend; rfl
  | cons m ms ih =>
    intro b step pend
    simp only [acc, runTurn]
    cases h : (decide (m.1 < 64) && enabledMove b gold step pend m.1 m.2) with
    | false => simp
    | true => simp [ih]

theorem acc_cons_iff (fin gold : Bool) (b : Spec.Board) (s : Nat) (p : Pending) (i : Nat) (d : Spec.Dir)
    (ms : List Mv) :
    acc fin gold b s p ((i, d) :: ms) = true ↔
      i < 64 ∧ enabledMove b gold s p i d = true ∧
        acc fin gold (applyStep b i d) (s + 1) (nextPending b gold p i d) ms = true := by
  simp only [acc, Bool.and_eq_true, decide_eq_true_eq, and_assoc]

theorem acc_nil (fin gold : Bool) (b : Spec.Board) (s : Nat) (p : Pending) :
    acc fin gold b s p [] = (!fin || !p.isPush) := rfl

theorem acc_nil_of_not_push (fin gold : Bool) (b : Spec.Board) (s : Nat) (p : Pending) (hp : p.isPush = false) :
    acc fin gold b s p [] = true := by
  rw [acc_nil, hp]; exact Bool.or_true _

theorem acc_prefix (gold : Bool) : ∀ (l t : List Mv) (b : Spec.Board) (s : Nat) (p : Pending),
    acc false gold b s p (l ++ t) = true → acc false gold b s p l = true
  | [], _, _, _, _, _ => rfl
  | (i, d) :: l, t, b, s, p, h => by
    rw [List.cons_append, acc_cons_iff] at h
    exact (acc_cons_iff ..).2 ⟨h.1, h.2.1, acc_prefix gold l t _ _ _ h.2.2⟩

/-- The greedy reading (an enemy step onto the square a stronger friendly piece has just left is
always booked as the end of a pull) loses nothing: whatever is accepted with no obligation is
accepted when a pull is possible as well.  The enemy step that would have started a push is booked
as the end of the pull; the intended pusher then enters the vacated square by an ordinary step.
(The last case consumes two moves, hence the induction on a bound `n` of the length.) -/
theorem acc_mono (fin gold : Bool) : ∀ (n : Nat) (ms : List Mv) (b : Spec.Board) (s q : Nat) (x : Spec.Piece),
    ms.length ≤ n → acc fin gold b s .none ms = true → acc fin gold b s (.pull q x) ms = true := by
  intro n
  induction n with
  | zero =>
    intro ms b s q x hl _
    have : ms = [] := List.length_eq_zero_iff.1 (by omega)
    subst this; exact acc_nil_of_not_push _ _ _ _ _ rfl
  | succ n ih =>
    intro ms b s q x hl h
    cases ms with
    | nil => exact acc_nil_of_not_push _ _ _ _ _ rfl
    | cons m rest =>
      obtain ⟨i, d⟩ := m
      have hl' : rest.length ≤ n := by simp only [List.length_cons] at hl; omega
      rw [acc_cons_iff] at h ⊢
      obtain ⟨hi64, hen, hacc⟩ := h
      have hen' : enabledMove b gold s (.pull q x) i d = true := by
        rw [enabledMove_pull, ← enabledMove_none, hen]; rfl
      refine ⟨hi64, hen', ?_⟩
      obtain ⟨c, _, hbi, _⟩ := enabled_cases b gold s .none i d hen
      by_cases hg : c.gold = gold
      · rw [nextPending_friend b gold _ i d c hbi hg rfl] at hacc ⊢
        exact hacc
      · rw [nextPending_enemy b gold _ i d c hbi hg] at hacc ⊢
        rw [pullEnd_none, if_neg Bool.false_ne_true] at hacc
        cases hpe : pullEnd b gold (.pull q x) i d with
        | false => rw [if_neg Bool.false_ne_true]; exact hacc
        | true =>
          -- booked as the end of the pull: the pusher's entry becomes an own step, after which a
          -- pull is possible again (`ih`)
          rw [if_pos rfl]
          cases rest with
          | nil => exact acc_nil_of_not_push _ _ _ _ _ rfl
          | cons m2 rest' =>
            obtain ⟨x2, dx⟩ := m2
            have hl2 : rest'.length ≤ n := by simp only [List.length_cons] at hl'; omega
            rw [acc_cons_iff, enabledMove_push, pushEnd_iff] at hacc
            obtain ⟨hx64, ⟨cx, hbx, hnx, hq, hgx, hfz, hst⟩, hacc2⟩ := hacc
            have hnr : cx.piece ≠ .rabbit := strength_pos_not_rabbit _ _ hst
            have hown : ownStep (applyStep b i d) gold x2 dx = true :=
              (ownStep_iff _ _ _ _).2 ⟨cx, i, hbx, hnx, hq, hgx, hfz, fun h => hnr h.1⟩
            rw [nextPending_complete _ gold _ x2 dx cx hbx hgx rfl] at hacc2
            refine (acc_cons_iff ..).2 ⟨hx64, by rw [enabledMove_none, hown]; rfl, ?_⟩
            rw [nextPending_friend _ gold _ x2 dx cx hbx hgx rfl, if_pos hnr]
            exact ih rest' _ _ _ _ hl2 hacc2

theorem acc_of_acc_none (fin gold : Bool) (ms : List Mv) (b : Spec.Board) (s : Nat) (p : Pending)
    (hp : p.isPush = false) (h : acc fin gold b s .none ms = true) : acc fin gold b s p ms = true := by
  cases p with
  | none => exact h
  | pull q x => exact acc_mono fin gold ms.length ms b s q x (Nat.le_refl _) h
  | push q t => cases hp

theorem acc_pull_to_none (fin gold : Bool) (b : Spec.Board) (s q : Nat) (x : Spec.Piece) (i : Nat) (d : Spec.Dir)
    (rest : List Mv) (hpe : pullEnd b gold (.pull q x) i d = false)
    (h : acc fin gold b s (.pull q x) ((i, d) :: rest) = true) :
    acc fin gold b s .none ((i, d) :: rest) = true := by
  rw [acc_cons_iff] at h ⊢
  obtain ⟨h1, h2, h3⟩ := h
  rw [enabledMove_pull, hpe, Bool.or_false] at h2
  have e : nextPending b gold (.pull q x) i d = nextPending b gold .none i d := by
    unfold nextPending; rw [hpe, pullEnd_none]; rfl
  exact ⟨h1, by rw [enabledMove_none]; exact h2, by rw [← e]; exact h3⟩

theorem legal_push_iff (b : Spec.Board) (gold : Bool) (i : Nat) (d : Spec.Dir) (x : Nat) (dx : Spec.Dir) :
    TUnit.legal b gold (.push i d x dx) = true ↔
      i < 64 ∧ x < 64 ∧ nbr x dx = some i ∧ ∃ c j cx, b i = some c ∧ nbr i d = some j ∧ b x = some cx ∧
        c.gold ≠ gold ∧ b j = none ∧ cx.gold = gold ∧ frozen b x = false ∧
        c.piece.strength < cx.piece.strength := by
  unfold TUnit.legal
  cases hb : b i with
  | none => simp [hb]
  | some c =>
    cases hn : nbr i d with
    | none => simp [hb, hn]
    | some j =>
      cases hx : b x with
      | none => simp [hb, hn, hx]
      | some cx => simp [hb, hn, hx, Option.isNone_iff_eq_none, and_assoc]

theorem legal_pull_iff (b : Spec.Board) (gold : Bool) (i : Nat) (d : Spec.Dir) (e : Nat) (de : Spec.Dir) :
    TUnit.legal b gold (.pull i d e de) = true ↔
      i < 64 ∧ e < 64 ∧ ownStep b gold i d = true ∧ nbr e de = some i ∧ ∃ c ce, b i = some c ∧ b e = some ce ∧
        ce.gold ≠ gold ∧ ce.piece.strength < c.piece.strength := by
  unfold TUnit.legal
  cases hb : b i with
  | none => simp [hb]
  | some c =>
    cases hx : b e with
    | none => simp [hb, hx]
    | some ce => simp [hb, hx, and_assoc]

theorem legal_single_iff (b : Spec.Board) (gold : Bool) (i : Nat) (d : Spec.Dir) :
    TUnit.legal b gold (.single i d) = true ↔ i < 64 ∧ ownStep b gold i d = true := by
  simp [TUnit.legal]

/-- `.none` in `h`: the unit may leave a pull possible, which by `acc_mono` does not restrict what follows -/
theorem unit_run (fin gold : Bool) (b : Spec.Board) (hb : NoHanging b) (s : Nat) (u : TUnit)
    (hu : u.legal b gold = true) (h4 : s + u.steps.length ≤ 4) (rest : List Mv)
    (h : acc fin gold (applySteps b u.steps) (s + u.steps.length) .none rest = true) :
    acc fin gold b s .none (u.steps ++ rest) = true := by
  cases u with
  | single i d =>
    obtain ⟨hi64, hown⟩ := (legal_single_iff _ _ _ _).1 hu
    obtain ⟨c, j, hbi, hn, hj, hg, _⟩ := (ownStep_iff _ _ _ _).1 hown
    refine (acc_cons_iff ..).2 ⟨hi64, by rw [enabledMove_none, hown]; rfl, ?_⟩
    rw [nextPending_friend b gold .none i d c hbi hg rfl]
    exact acc_of_acc_none _ _ _ _ _ _ (by split <;> rfl) h
  | push i d x dx =>
    obtain ⟨hi64, hx64, hnx, c, j, cx, hbi, hn, hbx, hg, hj, hgx, hfz, hst⟩ :=
      (legal_push_iff _ _ _ _ _ _).1 hu
    have hcol : cx.gold ≠ c.gold := by rw [hgx]; exact fun e => hg e.symm
    obtain ⟨hx1, hfz1⟩ := pusher_displace b hb i j x c cx d dx hbi hj hn hnx hcol hst hbx
    rw [hfz, ← applyStep_eq b i j d hn] at hfz1
    rw [← applyStep_eq b i j d hn] at hx1
    have hi1 : applyStep b i d i = none := by
      rw [applyStep_eq b i j d hn]; exact step_src_none b i j c hbi hj
    have hps : pushStart b gold s i d = true :=
      (pushStart_iff _ _ _ _ _).2 ⟨by simp only [TUnit.steps, List.length_cons] at h4; omega, c, j, hbi, hn, hj, hg,
        (hasPusher_iff _ _ _ _).2 ⟨dx.opp, x, cx, nbr_opp x i dx hx64 hnx, hbx, hgx, hfz, hst⟩⟩
    refine (acc_cons_iff ..).2 ⟨hi64, by rw [enabledMove_none, hps, Bool.or_true], ?_⟩
    rw [nextPending_enemy b gold _ i d c hbi hg, pullEnd_none, if_neg Bool.false_ne_true]
    refine (acc_cons_iff ..).2 ⟨hx64, ?_, ?_⟩
    · rw [enabledMove_push, pushEnd_iff]; exact ⟨cx, hx1, hnx, hi1, hgx, hfz1, hst⟩
    · rw [nextPending_complete _ gold _ x dx cx hx1 hgx rfl]; exact h
  | pull i d e de =>
    obtain ⟨hi64, he64, hown, hne, c, ce, hbi, hbe, hge, hst⟩ := (legal_pull_iff _ _ _ _ _ _).1 hu
    obtain ⟨c', j, hbi', hn, hj, hg, _⟩ := (ownStep_iff _ _ _ _).1 hown
    obtain rfl : c' = c := by rw [hbi] at hbi'; exact (Option.some.inj hbi').symm
    have he1 : applyStep b i d e = some ce := by
      rw [applyStep_eq b i j d hn]
      exact (displace_other_iff b hb i j e c' ce hbi hj (by rw [hg]; exact hge)).2 hbe
    have hi1 : applyStep b i d i = none := by
      rw [applyStep_eq b i j d hn]; exact step_src_none b i j c' hbi hj
    have hpe : pullEnd (applyStep b i d) gold (.pull i c'.piece) e de = true :=
      (pullEnd_iff _ _ _ _ _ _).2 ⟨ce, he1, hne, hi1, hge, hst⟩
    refine (acc_cons_iff ..).2 ⟨hi64, by rw [enabledMove_none, hown]; rfl, ?_⟩
    rw [nextPending_friend b gold .none i d c' hbi hg rfl, if_pos (strength_pos_not_rabbit _ _ hst)]
    refine (acc_cons_iff ..).2 ⟨he64, by rw [enabledMove_pull, hpe, Bool.or_true], ?_⟩
    rw [nextPending_enemy _ gold _ e de ce he1 hge, hpe, if_pos rfl]; exact h

/-- the second disjunct: the list ends after the displacement of an enemy piece, and any available pusher completes
the push -/
theorem first_unit (fin gold : Bool) (b : Spec.Board) (hb : NoHanging b) (s i : Nat) (d : Spec.Dir)
    (rest : List Mv) (h : acc fin gold b s .none ((i, d) :: rest) = true) :
    ∃ u : TUnit, u.legal b gold = true ∧
      ((∃ rest', (i, d) :: rest = u.steps ++ rest' ∧
          acc fin gold (applySteps b u.steps) (s + u.steps.length) .none rest' = true) ∨
        (fin = false ∧ rest = [] ∧ s < 3 ∧ ∃ m, u.steps = [(i, d), m])) := by
  rw [acc_cons_iff] at h
  obtain ⟨hi64, hen, hacc⟩ := h
  obtain ⟨c, j, hbi, hn, hj, k⟩ := enabled_cases b gold s .none i d hen
  cases k with
  | pushEnd _ _ _ hp | pullEnd _ _ _ hp => cases hp
  | own hg _ hown e =>
    -- a friendly piece steps: alone, unless the next move ends the pull it makes possible
    have hsl := (legal_single_iff b gold i d).2 ⟨hi64, hown⟩
    rw [e] at hacc
    by_cases hr : c.piece = .rabbit
    · rw [if_neg (fun h => h hr)] at hacc; exact ⟨.single i d, hsl, Or.inl ⟨_, rfl, hacc⟩⟩
    · rw [if_pos hr] at hacc
      cases rest with
      | nil => exact ⟨.single i d, hsl, Or.inl ⟨_, rfl, acc_nil_of_not_push _ _ _ _ _ rfl⟩⟩
      | cons m2 rest' =>
        obtain ⟨e, de⟩ := m2
        cases hpe : pullEnd (applyStep b i d) gold (.pull i c.piece) e de with
        | false => exact ⟨.single i d, hsl, Or.inl ⟨_, rfl, acc_pull_to_none _ _ _ _ _ _ _ _ _ hpe hacc⟩⟩
        | true =>
          rw [acc_cons_iff] at hacc
          obtain ⟨he64, _, hacc2⟩ := hacc
          obtain ⟨ce, hbe, hne, _, hge, hst⟩ := (pullEnd_iff _ _ _ _ _ _).1 hpe
          rw [nextPending_enemy _ gold _ e de ce hbe hge, hpe, if_pos rfl] at hacc2
          rw [applyStep_eq b i j d hn] at hbe
          have hbe0 := (displace_other_iff b hb i j e c ce hbi hj (by rw [hg]; exact hge)).1 hbe
          exact ⟨.pull i d e de,
            (legal_pull_iff _ _ _ _ _ _).2 ⟨hi64, he64, hown, hne, c, ce, hbi, hbe0, hge, hst⟩,
            Or.inl ⟨rest', rfl, hacc2⟩⟩
  | pushStart hg _ _ hs3 hpu e =>
    rw [e] at hacc
    cases rest with
    | nil =>
      rw [acc_nil] at hacc
      have hfin : fin = false := by cases fin <;> first | rfl | cases hacc
      obtain ⟨d0, x, cx, hnx, hbx, hgx, hfz, hst⟩ := (hasPusher_iff _ _ _ _).1 hpu
      have hx64 := nbr_lt i x d0 hi64 hnx
      exact ⟨.push i d x d0.opp,
        (legal_push_iff _ _ _ _ _ _).2
          ⟨hi64, hx64, nbr_opp i x d0 hi64 hnx, c, j, cx, hbi, hn, hbx, hg, hj, hgx, hfz, hst⟩,
        Or.inr ⟨hfin, rfl, hs3, _, rfl⟩⟩
    | cons m2 rest' =>
      obtain ⟨x, dx⟩ := m2
      rw [acc_cons_iff, enabledMove_push, pushEnd_iff] at hacc
      obtain ⟨hx64, ⟨cx, hbx, hnx, _, hgx, hfz, hst⟩, hacc2⟩ := hacc
      rw [nextPending_complete _ gold _ x dx cx hbx hgx rfl] at hacc2
      rw [applyStep_eq b i j d hn] at hbx hfz
      have hcol : cx.gold ≠ c.gold := by rw [hgx]; exact fun e => hg e.symm
      have hbx0 := (displace_other_iff b hb i j x c cx hbi hj hcol).1 hbx
      rw [(pusher_displace b hb i j x c cx d dx hbi hj hn hnx hcol hst hbx0).2] at hfz
      exact ⟨.push i d x dx,
        (legal_push_iff _ _ _ _ _ _).2 ⟨hi64, hx64, hnx, c, j, cx, hbi, hn, hbx0, hg, hj, hgx, hfz, hst⟩,
        Or.inl ⟨rest', rfl, hacc2⟩⟩

theorem units_run (fin gold : Bool) : ∀ (us : List TUnit) (b : Spec.Board) (s : Nat), NoHanging b →
    unitsLegal b gold us = true → s + (steps us).length ≤ 4 → acc fin gold b s .none (steps us) = true
  | [], _, _, _, _, _ => acc_nil_of_not_push _ _ _ _ _ rfl
  | u :: us, b, s, hb, hul, h4 => by
    simp only [unitsLegal, Bool.and_eq_true] at hul
    simp only [steps, List.length_append] at h4
    exact unit_run fin gold b hb s u hul.1 (by omega) _
      (units_run fin gold us _ _ (noHanging_applySteps _ b hb) hul.2 (by omega))

/-- the recursion takes one or two moves at a time; `n` bounds the length of `ms` -/
theorem acc_to_units (fin gold : Bool) : ∀ (n : Nat) (ms : List Mv) (b : Spec.Board) (s : Nat), NoHanging b →
    ms.length ≤ n → s + ms.length ≤ 4 → acc fin gold b s .none ms = true →
    ∃ us, unitsLegal b gold us = true ∧ s + (steps us).length ≤ 4 ∧ ms <+: steps us ∧
      (fin = true → ms = steps us)
  | _, [], _, _, _, _, h4, _ => ⟨[], rfl, h4, List.nil_prefix, fun _ => rfl⟩
  | 0, _ :: _, _, _, _, hl, _, _ => absurd hl (Nat.not_succ_le_zero _)
  | n + 1, m :: rest, b, s, hb, hl, h4, h => by
    obtain ⟨u, hu, ⟨rest', hms, hacc⟩ | ⟨hfin, rfl, hs3, m2, hst⟩⟩ := first_unit fin gold b hb s m.1 m.2 rest h
    · have hlen := congrArg List.length hms
      have hpos : 1 ≤ u.steps.length := by cases u <;> simp [TUnit.steps]
      simp only [List.length_append, List.length_cons] at hlen hl h4
      obtain ⟨us, hul, hl', hpre, hf⟩ := acc_to_units fin gold n rest' _ _
        (noHanging_applySteps _ b hb) (by omega) (by omega) hacc
      refine ⟨u :: us, by simp only [unitsLegal, hu, hul, Bool.and_self], ?_, ?_, fun hfin => ?_⟩
      · simp only [steps, List.length_append]; omega
      · rw [show m :: rest = u.steps ++ rest' from hms]; exact (List.prefix_append_right_inj _).2 hpre
      · rw [show m :: rest = u.steps ++ rest' from hms, hf hfin]; rfl
    · refine ⟨[u], by simp only [unitsLegal, hu, Bool.and_self], ?_, ?_, fun hf => ?_⟩
      · simp only [steps, hst, List.append_nil, List.length_cons, List.length_nil]; omega
      · simp only [steps, hst, List.append_nil]; exact List.cons_prefix_cons.2 ⟨rfl, List.nil_prefix⟩
      · rw [hfin] at hf; cases hf

theorem acc_iff_units (fin gold : Bool) (b : Spec.Board) (hb : NoHanging b) (s : Nat) (ms : List Mv)
    (h4 : s + ms.length ≤ 4) :
    acc fin gold b s .none ms = true ↔
      ∃ us, unitsLegal b gold us = true ∧ s + (steps us).length ≤ 4 ∧ ms <+: steps us ∧
        (fin = true → ms = steps us) := by
  refine ⟨acc_to_units fin gold ms.length ms b s hb (Nat.le_refl _) h4, ?_⟩
  rintro ⟨us, hul, hl, ⟨t, ht⟩, hfin⟩
  have h := units_run fin gold us b s hb hul hl
  cases fin with
  | true => rw [hfin rfl]; exact h
  | false => rw [← ht] at h; exact acc_prefix gold ms t b s .none h

theorem accepted_eq_acc (b : Spec.Board) (gold : Bool) (ms : List Mv) :
    accepted b gold ms = acc false gold b 0 .none ms := by
  rw [acc_eq_run]; unfold accepted
  cases runTurn b gold 0 .none ms <;> rfl

theorem mayEnd_eq_acc (b : Spec.Board) (gold : Bool) (ms : List Mv) (hne : ms ≠ []) :
    mayEnd b gold ms = acc true gold b 0 .none ms := by
  rw [acc_eq_run]; unfold mayEnd
  cases runTurn b gold 0 .none ms with
  | none => rfl
  | some p =>
    have : 1 ≤ ms.length := by
      cases ms with
      | nil => exact absurd rfl hne
      | cons _ _ => simp
    simp [passEnabled, this]

theorem legalTurn_iff (b : Spec.Board) (gold : Bool) (us : List TUnit) :
    legalTurn b gold us = true ↔
      unitsLegal b gold us = true ∧ 1 ≤ (steps us).length ∧ (steps us).length ≤ 4 := by
  simp only [legalTurn, Bool.and_eq_true, decide_eq_true_eq, and_assoc]

theorem run_isSome_eq_runTurn : ∀ (ms : List Mv) (b : Spec.Board) (gold : Bool) (step : Nat) (pend : Pending),
    step + ms.length ≤ 4 →
    (State.run ⟨b, gold, step, pend⟩ (ms.map fun m => Act.move m.1 m.2)).isSome =
      (runTurn b gold step pend ms).isSome
  | [], _, _, _, _, _ => rfl
  | m :: ms, b, gold, step, pend, h => by
    simp only [List.length_cons] at h
    simp only [List.map_cons, State.run, runTurn]
    by_cases he : State.enabled ⟨b, gold, step, pend⟩ (.move m.1 m.2) = true
    · rw [if_pos he, if_pos (show (decide (m.1 < 64) && enabledMove b gold step pend m.1 m.2) = true from he)]
      by_cases h3 : step < 3
      · rw [State.next_mid _ _ _ h3]
        exact run_isSome_eq_runTurn ms (applyStep b m.1 m.2) gold (step + 1) _ (by omega)
      · obtain rfl : ms = [] := List.length_eq_zero_iff.1 (by omega)
        rfl
    · rw [if_neg he, if_neg (show ¬ (decide (m.1 < 64) && enabledMove b gold step pend m.1 m.2) = true from he)]; rfl

end Arimaa.TurnLemmas
