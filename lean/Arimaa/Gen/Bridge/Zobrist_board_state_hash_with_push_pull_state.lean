-- GENERATED by /verif/tools/gen.py -- do not edit.  Bridge from the current text of `Zobrist::board_state_hash_with_push_pull_state` to the baseline text.
import Arimaa.Gen.Rs
import Arimaa.Gen.RsBase
import Arimaa.Gen.BridgeLadder
import Arimaa.Gen.Bridge.pull_piece_value
import Arimaa.Gen.Bridge.push_piece_value

namespace Arimaa.Gen.Bridge
open Arimaa Arimaa.Gen Arimaa.Rt

set_option maxHeartbeats 1000000 in
theorem bridge_Zobrist_board_state_hash_with_push_pull_state : @Rs.Zobrist_board_state_hash_with_push_pull_state = @RsBase.Zobrist_board_state_hash_with_push_pull_state := by
  funext a0 a1
  rs_ladder [Rs.Zobrist_board_state_hash_with_push_pull_state, RsBase.Zobrist_board_state_hash_with_push_pull_state, bridge_pull_piece_value, bridge_push_piece_value] [RsBase.pull_piece_value, RsBase.push_piece_value] (skip) [Rs.Zobrist_board_state_hash_with_push_pull_state, RsBase.Zobrist_board_state_hash_with_push_pull_state, Rs.pull_piece_value, Rs.push_piece_value, RsBase.pull_piece_value, RsBase.push_piece_value]

end Arimaa.Gen.Bridge
