import Arimaa.Lemmas.Abs
import Arimaa.Lemmas.SquareBits

/-! Piece types read through the generated tables, under well-formedness. -/
namespace Arimaa
open Gen Spec

theorem pieceTypeAtBit_sqBit (b : Board) (hw : WF b) (j : Nat) (hj : j < 64) (t : Piece)
    (ht : typeAt b j = some t) : pieceTypeAtBit (sqBit j) b = t := by
  have hb := typeAt_some_bits b hw j t ht
  unfold pieceTypeAtBit
  simp only [pieceTypeAtBitChain, pieceTypeAtBitDefault, List.find?, and_sqBit_ne_zero _ j hj, hb]
  cases t <;> simp

theorem pieceTypeAtBit_abs (b : Board) (hw : WF b) (j : Nat) (hj : j < 64) (c : Cell)
    (hc : absBoard b j = some c) : toSpec (pieceTypeAtBit (sqBit j) b) = c.piece := by
  obtain ⟨t, ht, hp, _⟩ := typeAt_of_abs b j c hc
  rw [pieceTypeAtBit_sqBit b hw j hj t ht, hp]

theorem lesserPiecesFields_any (t p : Piece) :
    ((lesserPiecesFields p).any fun f => decide (t = f)) = Piece.lt t p := by
  cases p <;> cases t <;> rfl

theorem lesserPieces_abs (b : Board) (hw : WF b) (p : Piece) (j : Nat) :
    bit (GameState.lesserPieces p b) j =
      (absBoard b j).any fun c => decide (c.piece.strength < (toSpec p).strength) := by
  unfold GameState.lesserPieces
  rw [absBoard_apply]
  simp only [foldl_or_bit, bit_zero, Bool.false_or, typeAt_bits b hw j]
  cases typeAt b j with
  | none => simp
  | some t =>
    simp only [Option.some.injEq, lesserPiecesFields_any]
    exact toSpec_strength_lt t p

theorem pieceTypeAtSquare_eq (b : Board) (hw : WF b) (j : Nat) (hj : j < 64) :
    b.pieceTypeAtSquare j = typeAt b j := by
  unfold Board.pieceTypeAtSquare
  rw [sqBit_and_ne_zero _ j hj, hw.rep.all_bit, absBoard_apply]
  cases ht : typeAt b j with
  | none => simp
  | some t => simp [pieceTypeAtBit_sqBit b hw j hj t ht]

end Arimaa
