import Arimaa.Lemmas.RsAgreeBoard
import Arimaa.Lemmas.Xor

namespace Arimaa.RsAgree
open Arimaa.Gen Arimaa.Gen.RsBase Arimaa.Rt

theorem xor_loop (x : BB) (p : Piece) (o : Bool) (v : BB) :
    Rt.forM (squaresOf x) v (fun value square => Res.bind (piece_value square p o) (fun t => Res.ok (value ^^^ t))) =
      Res.guard (xorOverPanics x p o) (v ^^^ xorOver x (fun sq => pieceValue sq p o)) := by
  rw [Rt.forM_guard (squaresOf x) v _ (fun sq => pieceValuePanics sq p o) (fun acc sq => acc ^^^ pieceValue sq p o)]
  · rw [foldl_xor_init]; rfl
  · intro s a _
    rw [piece_value_eq, bind_guard_ok]

/-- the Rust test `x != 0` around the loop is redundant -/
theorem xor_loop_guarded (x : BB) (p : Piece) (o : Bool) (v : BB) :
    (bif (x != 0) then
        Rt.forM (squaresOf x) v (fun value square => Res.bind (piece_value square p o) (fun t => Res.ok (value ^^^ t)))
      else Res.ok v) =
      Res.guard (xorOverPanics x p o) (v ^^^ xorOver x (fun sq => pieceValue sq p o)) := by
  cases h : (x != 0)
  · rw [← xor_loop, show x = 0 by simpa using h, squaresOf_zero]
    rfl
  · exact xor_loop x p o v

theorem planes_loop (P : Bool → Piece → Bool) (X : Bool → Piece → BB) (v : BB) :
    Rt.forM [true, false] v (fun v o => Rt.forM Piece_ALL v (fun v p => Res.guard (P o p) (v ^^^ X o p))) =
      Res.guard (planes.any fun op => P op.1 op.2) (planes.foldl (fun acc op => acc ^^^ X op.1 op.2) v) := by
  simp only [Rt.forM_guard _ _ _ _ _ (fun _ _ _ => rfl), planes, List.any_flatMap, List.any_map, List.foldl_flatMap,
    List.foldl_map]
  rfl

theorem piece_board_value_eq (prev new : Board) :
    piece_board_value prev new = Res.guard (pieceBoardValuePanics prev new) (pieceBoardValue prev new) := by
  unfold piece_board_value
  simp only [bits_for_piece, xor_loop_guarded]
  exact planes_loop _ _ 0

theorem from_piece_board_eq (b : Board) (p1 : Bool) (step : Nat) :
    Zobrist_from_piece_board b p1 step = Res.guard (zFromPieceBoardPanics b step) (zFromPieceBoard b p1 step) := by
  unfold Zobrist_from_piece_board
  simp only [bits_for_piece, xor_loop, step_values_index, planes_loop, bind_guard_guard, Bool.cond_eq_ite]
  rfl

theorem zobrist_move_piece (h : BB) (s : GameState) (pp : PlayPhase) (hp : s.phase = .play pp)
    (nb : Board) (newStep : Nat) (newP1 : Bool) :
    Zobrist_move_piece h s nb newStep newP1 =
      Res.guard (zMovePiecePanics s.board pp.step nb newStep)
        (zMovePiece h s.p1Turn s.board pp.step nb newStep newP1) := by
  simp only [Zobrist_move_piece, is_p1_turn_to_move, game_state_piece_board, piece_board_value_eq,
    current_step_play s pp hp, Res.bind_ok, step_value_eq, bind_guard_guard, bind_guard_ok, zMovePiecePanics,
    zMovePiece, Bool.cond_eq_ite]

end Arimaa.RsAgree
