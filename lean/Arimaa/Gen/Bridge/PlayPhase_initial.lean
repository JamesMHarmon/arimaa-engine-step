-- GENERATED by /verif/tools/gen.py -- do not edit.  Bridge from the current text of `PlayPhase::initial` to the baseline text.
import Arimaa.Gen.Rs
import Arimaa.Gen.RsBase
import Arimaa.Gen.BridgeLadder

namespace Arimaa.Gen.Bridge
open Arimaa Arimaa.Gen Arimaa.Rt

set_option maxHeartbeats 1000000 in
theorem bridge_PlayPhase_initial : @Rs.PlayPhase_initial = @RsBase.PlayPhase_initial := by
  funext a0 a1
  rs_ladder [Rs.PlayPhase_initial, RsBase.PlayPhase_initial] [] (skip) [Rs.PlayPhase_initial, RsBase.PlayPhase_initial]

end Arimaa.Gen.Bridge
