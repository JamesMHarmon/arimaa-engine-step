import Arimaa.Props.C13
import Arimaa.Lemmas.RsAgreePreview
import Arimaa.Lemmas.RsAgreeStep
import Arimaa.Lemmas.CodeRuleOnly
import Arimaa.Gen.Bridge.PieceBoardState_trapped_piece_bits

/-!
C13 for the regenerated code (`Gen/Rs.lean`, written from the Rust text on every run).  `C13_code_agrees` lists, as one
obligation, the agreements with the hand model of the functions C13 speaks of, so that a change of the Rust text that
alters behaviour breaks an obligation here without a test having to find the input; a corollary whose hypothesis names
a list the code returned also cites `Code.rule_only` / `Code.offered`.  (written by tools/mkrprops.py)
-/
namespace Arimaa
open GameState Arimaa.Gen.Rs Arimaa.Rt Arimaa.Gen.Bridge Spec

/-- the agreement theorems C13 rests on, about the CURRENT functions, as one obligation -/
theorem C13_code_agrees :
    (∀ (s : GameState) (a : Action), GameState_trapped_animal_for_action s a = Res.guard (s.trappedAnimalForActionPanics a) (s.trappedAnimalForAction a)) ∧
    (∀ (s : GameState) (a : Action), GameState_take_action s a = Res.guard (s.takeActionPanics a) (s.takeAction a)) ∧
    (∀ b : Board, PieceBoardState_trapped_piece_bits b = b.trappedPieceBits) :=
  ⟨Code.trapped_animal_for_action,
   Code.take_action,
   bridge_PieceBoardState_trapped_piece_bits ▸ RsAgree.trapped_piece_bits⟩

/-- **C13 for the code as it is now**: for a step of the rule-only list of the regenerated code, what the
regenerated preview returns is `none` exactly when the step leaves no unsupported trap piece, and otherwise names
the one square, type and owner that hangs after the move -/
theorem C13_code_preview_exact (s : GameState) (pp : PlayPhase) (h : PlayInv s pp)
    (hno : NoHanging (absBoard s.board)) (l : List Action) (hl : GameState_valid_actions_no_rep s = .ok l)
    (i : Nat) (d : Dir) (ha : Action.move i d ∈ l) (r : Option (Nat × Piece × Bool))
    (hr : GameState_trapped_animal_for_action s (.move i d) = .ok r) :
    ∃ j, nbr i (dirSpec d) = some j ∧
      (r = none ↔ ∀ k, k < 64 → hanging (move (absBoard s.board) i j) k = false) ∧
      (∀ k p g, r = some (k, p, g) →
        k < 64 ∧ move (absBoard s.board) i j k = some ⟨g, toSpec p⟩ ∧
          hanging (move (absBoard s.board) i j) k = true ∧
          ∀ k', k' < 64 → hanging (move (absBoard s.board) i j) k' = true → k' = k) := by
  have h1 := Code.rule_only hl
  have h2 := RsAgree.eq_of_guard_eq_ok (Code.trapped_animal_for_action s _) hr
  subst h1 h2
  exact C13_preview_exact s pp h hno i d ha

end Arimaa
