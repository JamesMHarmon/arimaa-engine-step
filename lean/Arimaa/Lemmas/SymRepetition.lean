import Arimaa.Lemmas.History
import Arimaa.Lemmas.SymTransfer

/-!
"Is the `σ`-image of" between well-formed boards, and between positions, is bi-unique.  The ghost lists of
start-of-turn positions (`turnStarts`) of a game and of its image game are related entry by entry; hence occurrence
counts and the turn-start board correspond, and with them what the repetition rules withhold (`symRel_offered_rep`,
under `CollisionFree` on both sides).
-/
namespace Arimaa
open Spec GameState

structure BoardRel (σ : Sym) (b b' : Board) : Prop where
  wf : WF b
  wf' : WF b'
  abs : absBoard b' = σ.board (absBoard b)

/-- a well-formed board is determined by its abstraction, and `σ` is an involution -/
theorem boardRel_eq_iff (σ : Sym) (b c b' c' : Board) (rb : BoardRel σ b b') (rc : BoardRel σ c c') :
    b' = c' ↔ b = c := by
  constructor
  · intro h
    apply absBoard_inj_of_wf b c rb.wf rc.wf
    apply σ.board_inj
    rw [← rb.abs, ← rc.abs, h]
  · intro h
    apply absBoard_inj_of_wf b' c' rb.wf' rc.wf'
    rw [rb.abs, rc.abs, h]

def PosRel (σ : Sym) (p p' : Board × Bool) : Prop := BoardRel σ p.1 p'.1 ∧ p'.2 = σ.col p.2

theorem posRel_eq_iff (σ : Sym) (p q p' q' : Board × Bool) (rp : PosRel σ p p') (rq : PosRel σ q q') :
    p' = q' ↔ p = q := by
  have hbd := boardRel_eq_iff σ p.1 q.1 p'.1 q'.1 rp.1 rq.1
  constructor
  · intro h
    apply Prod.ext (hbd.mp (congrArg Prod.fst h))
    apply σ.col_inj
    rw [← rp.2, ← rq.2, h]
  · intro h
    apply Prod.ext (hbd.mpr (congrArg Prod.fst h))
    rw [rp.2, rq.2, h]

inductive RelL {α β : Type} (R : α → β → Prop) : List α → List β → Prop
  | nil : RelL R [] []
  | cons {a b l m} : R a b → RelL R l m → RelL R (a :: l) (b :: m)

theorem relL_concat {α β : Type} (R : α → β → Prop) (l : List α) (m : List β) (a : α) (b : β)
    (h : RelL R l m) (hab : R a b) : RelL R (l ++ [a]) (m ++ [b]) := by
  induction h with
  | nil => exact .cons hab .nil
  | cons hxy _ ih => exact .cons hxy ih

theorem relL_count {α β : Type} [BEq α] [LawfulBEq α] [BEq β] [LawfulBEq β] (R : α → β → Prop)
    (l : List α) (m : List β) (q : α) (q' : β) (h : RelL R l m)
    (hbi : ∀ p p', R p p' → (p' = q' ↔ p = q)) : m.count q' = l.count q := by
  induction h with
  | nil => rfl
  | @cons x y _ _ hxy _ ih =>
    have : (y == q') = (x == q) := by
      rw [Bool.eq_iff_iff, beq_iff_eq, beq_iff_eq]; exact hbi x y hxy
    rw [List.count_cons, List.count_cons, ih, this]

/-- the ghost lists of two related games: entries related one by one, and so the boards of the last
entries (the turn-start boards) -/
structure GhostRel (σ : Sym) (G G' : List (Board × Bool)) : Prop where
  rel : RelL (PosRel σ) G G'
  last : BoardRel σ (tsb G) (tsb G')

theorem ghostRel_concat (σ : Sym) (G G' : List (Board × Bool)) (h : GhostRel σ G G')
    (p p' : Board × Bool) (r : PosRel σ p p') : GhostRel σ (G ++ [p]) (G' ++ [p']) :=
  ⟨relL_concat _ _ _ _ _ h.rel r, by rw [tsb_concat, tsb_concat]; exact r.1⟩

theorem ghostRel_start (σ : Sym) (s s' : GameState) (hw : WF s.board) (hw' : WF s'.board)
    (hb : absBoard s'.board = σ.board (absBoard s.board)) (ht : s'.p1Turn = σ.col s.p1Turn) :
    GhostRel σ [posOf s] [posOf s'] :=
  ⟨.cons ⟨⟨hw, hw', hb⟩, ht⟩ .nil, hw, hw', hb⟩

theorem endsTurn_iact (σ : Sym) (pp pp' : PlayPhase) (hs : pp'.step = pp.step) (a : Action) :
    endsTurn pp' (σ.iact a) = endsTurn pp a := by
  cases a <;> simp only [Spec.Sym.iact, endsTurn, hs]

theorem GhostRel.repeats_iff {σ : Sym} {G G' : List (Board × Bool)} (hg : GhostRel σ G G')
    {p p' : Board × Bool} (r : PosRel σ p p') : Repeats G' p' ↔ Repeats G p :=
  or_congr (boardRel_eq_iff σ _ _ _ _ r.1 hg.last)
    (by rw [relL_count (PosRel σ) G G' p p' hg.rel fun q q' rq => posRel_eq_iff σ q p q' p' rq r])

/-- related states with related ghost lists offer corresponding lists, repetition rules on: on either side the
offered list is read on exact boards (`mem_validActions_iff_repeat`), and "repeats" is respected by a bi-unique
relation -/
theorem symRel_offered_rep (σ : Sym) (G G' : List (Board × Bool)) (s s' : GameState) (pp pp' : PlayPhase)
    (h : HistInv G s pp) (h' : HistInv G' s' pp') (hr : SymRel σ s pp s' pp') (hg : GhostRel σ G G')
    (hcf : CollisionFree G (turnEndResults s pp)) (hcf' : CollisionFree G' (turnEndResults s' pp'))
    (a : Action) : σ.iact a ∈ s'.validActions ↔ a ∈ s.validActions := by
  rw [mem_validActions_iff_repeat G s pp h hcf a, mem_validActions_iff_repeat G' s' pp' h' hcf' (σ.iact a),
    symRel_offered σ s s' pp pp' h.inv h'.inv hr a, endsTurn_iact σ pp pp' hr.step a]
  refine and_congr_right fun ha => not_congr (and_congr_right fun _ => ?_)
  obtain ⟨_, q, q', hq, hq', hrq⟩ := symRel_step σ s s' pp pp' h.inv h'.inv hr a ha
  exact hg.repeats_iff ⟨⟨hq.wf, hq'.wf, hrq.board⟩, hrq.turn⟩

theorem ghostRel_run (σ : Sym) (as : List Action) (s s' : GameState) (pp pp' : PlayPhase)
    (h : PlayInv s pp) (h' : PlayInv s' pp') (hr : SymRel σ s pp s' pp') (ho : OfferedNR s as)
    (G G' : List (Board × Bool)) (hg : GhostRel σ G G') :
    GhostRel σ (turnStartsFrom s G as) (turnStartsFrom s' G' (as.map σ.iact)) := by
  induction as generalizing s s' pp pp' G G' with
  | nil => exact hg
  | cons a as ih =>
    obtain ⟨_, q, q', hq, hq', hrq⟩ := symRel_step σ s s' pp pp' h h' hr a ho.1
    refine ih _ _ q q' hq hq' hrq ho.2 _ _ ?_
    unfold ghostStep
    rw [endsTurnAt_play s pp h.phase, endsTurnAt_play s' pp' h'.phase, endsTurn_iact σ pp pp' hr.step]
    cases endsTurn pp a with
    | false => exact hg
    | true => exact ghostRel_concat σ G G' hg _ _ ⟨⟨hq.wf, hq'.wf, hrq.board⟩, hrq.turn⟩

theorem symRel_start (σ : Sym) (s0 s0' : GameState)
    (hb : absBoard s0'.board = σ.board (absBoard s0.board)) (ht : s0'.p1Turn = σ.col s0.p1Turn) :
    SymRel σ s0 (PlayPhase.initial s0.hash [s0.hash]) s0' (PlayPhase.initial s0'.hash [s0'.hash]) :=
  ⟨hb, ht, rfl, rfl⟩

theorem symGame (σ : Sym) (s0 s0' : GameState) (h0 : StartOk s0) (h0' : StartOk s0')
    (hb : absBoard s0'.board = σ.board (absBoard s0.board)) (ht : s0'.p1Turn = σ.col s0.p1Turn)
    (as : List Action) (ho : OfferedNR s0 as) :
    ∃ pp pp', HistInv (turnStarts s0 as) (s0.run as) pp ∧
      HistInv (turnStarts s0' (as.map σ.iact)) (s0'.run (as.map σ.iact)) pp' ∧
      SymRel σ (s0.run as) pp (s0'.run (as.map σ.iact)) pp' ∧ OfferedNR s0' (as.map σ.iact) ∧
      GhostRel σ (turnStarts s0 as) (turnStarts s0' (as.map σ.iact)) := by
  have hr := symRel_start σ s0 s0' hb ht
  obtain ⟨ho', q, q', hq, hq', hrq⟩ := symRel_run σ as s0 s0' _ _ h0.playInv h0'.playInv hr ho
  exact ⟨q, q', histInv_game_of_phase s0 h0 as ho q hq.phase, histInv_game_of_phase s0' h0' _ ho' q' hq'.phase,
    hrq, ho',
    ghostRel_run σ as s0 s0' _ _ h0.playInv h0'.playInv hr ho _ _ (ghostRel_start σ s0 s0' h0.wf h0'.wf hb ht)⟩

end Arimaa
