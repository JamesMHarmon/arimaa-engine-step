import Arimaa.Impl.AutoTraits
import Arimaa.Lemmas.Conc
import Arimaa.Lemmas.ConcCountExample

/-!
# C18 — game states can be shared between threads and expanded concurrently

Part (a): auto-trait derivation on the generated type inventory, and absence of mutation through
shared references.  Part (b): interleavings on the heap model.
-/

namespace Arimaa.Props
open Arimaa.AutoTraits

/-- the thirteen types the property names (states, boards, actions, hashes, history lists) -/
def c18Types : List TyExpr :=
  [.app "GameState" [], .app "PieceBoardState" [], .app "PieceBoard" [], .app "PlayPhase" [],
   .app "Phase" [], .app "PushPullState" [], .app "Action" [], .app "Square" [], .app "Piece" [],
   .app "Direction" [], .app "Zobrist" [], .app "List" [.app "Zobrist" []], .app "Terminal" []]

/-- **C18 (a1).** Each of `GameState`, `PieceBoardState`, `PieceBoard`, `PlayPhase`, `Phase`,
`PushPullState`, `Action`, `Square`, `Piece`, `Direction`, `Zobrist`, `List<Zobrist>`, `Terminal` is
`Send` and `Sync` by Rust's structural auto-trait rules, evaluated on the type inventory generated
from the crate's sources.  (Replacing `Arc` by `Rc` in `linked_list.rs` changes `Gen.typeDecls` and
this evaluation then yields `false`, see the `example`s below.) -/
theorem C18_send_sync : ∀ t ∈ c18Types, isSend t = true ∧ isSync t = true := by
  decide +kernel

/-- **C18 (a2).** Nothing can be modified through a shared reference: the crate has no `pub` method
taking `&mut self` (the `&mut self` methods it has are the trait methods `Drop::drop`
of the list and `Iterator::next` of the borrowed list iterator `Iter`, which advances the iterator's own
cursor; private helpers taking `&mut self` need exclusive access and are admitted), no
occurrence of unchecked-code blocks or impls, `static mut`, statics, `Cell`/`RefCell`/`UnsafeCell`, `Rc`, raw pointers,
atomics, locks, thread-locals or manual `Send`/`Sync` impls anywhere in the sources
(`Gen.hazards = []`), and no field of any type mentions such a constructor.  One kind of item is
listed separately (`Gen.benignStatics`) instead of being counted: a write-once `static` holding a
compiled regular expression (`OnceLock<Regex>` / `LazyLock<Regex>` initialised by `Regex::new` of a
pattern only) — a constant of the process that every thread sees with the same value, not state of a
game; that list is empty as well. -/
theorem C18_immutable :
    (∀ m ∈ Gen.mutSelfMethods, m.2.2 = false) ∧
    Gen.hazards = [] ∧
    noSharedMutFields Gen.typeDecls = true := by
  decide +kernel

/-- the thirteen types are all found in the inventory (none is "Send because unknown") -/
example : ∀ t ∈ c18Types,
    (match t with | .app n _ => (findDecl Gen.typeDecls n).isSome | _ => false) = true := by
  decide +kernel

/-- the `Arc → Rc` mutant of the inventory: the history list, and every type containing it, loses
both traits, while the plain-data types keep them -/
example :
    let m := renameCtor "Arc" "Rc" Gen.typeDecls
    holds m defaultFuel .send [] (.app "List" [.app "Zobrist" []]) = false ∧
    holds m defaultFuel .sync [] (.app "List" [.app "Zobrist" []]) = false ∧
    holds m defaultFuel .send [] (.app "GameState" []) = false ∧
    holds m defaultFuel .sync [] (.app "PlayPhase" []) = false ∧
    holds m defaultFuel .send [] (.app "PieceBoard" []) = true := by
  decide +kernel

/-- the rules reject the usual offenders and are conservative on unknown constructors -/
example :
    isSend (.app "Rc" [.prim "u8"]) = false ∧ isSync (.app "Rc" [.prim "u8"]) = false ∧
    isSend (.app "Cell" [.prim "u8"]) = true ∧ isSync (.app "Cell" [.prim "u8"]) = false ∧
    isSync (.app "RefCell" [.prim "u8"]) = false ∧
    isSend .rawptr = false ∧ isSync .rawptr = false ∧
    isSend (.app "Arc" [.app "Cell" [.prim "u8"]]) = false ∧
    isSend (.ref (.app "Cell" [.prim "u8"])) = false ∧
    isSync (.app "Mutex" [.app "Cell" [.prim "u8"]]) = true ∧
    isSend (.app "Mutex" [.app "Rc" [.prim "u8"]]) = false ∧
    isSend (.app "Frobnicate" []) = false ∧
    isSend (.app "List" [.app "Rc" [.prim "u8"]]) = false ∧
    isSync (.app "List" [.app "Cell" [.prim "u8"]]) = false ∧
    isSend (.app "Iter" [.app "Zobrist" []]) = true ∧
    isSend (.app "Iter" [.app "Cell" [.prim "u8"]]) = false ∧
    isSend (.app "List" []) = false := by
  decide +kernel

/-- a `pub fn f(&mut self)` or any hazard entry would falsify `C18_immutable` -/
example : ¬ (∀ m ∈ [("src/linked_list.rs", "next", false), ("src/engine.rs", "set_board", true)], m.2.2 = false) := by
  decide

open Arimaa.Conc in
/-- **C18 (b1): results do not depend on the interleaving.**  Take any initial state of the heap model (any
heap, any number of threads, any programs), any thread `t`, any schedule `sched` of all threads, and
any number `k` of steps of `t` running alone from the same initial state.  Whenever `t` has executed
the same number of instructions in both runs, its whole local state is the same in both: the sequence
of values it has read so far (`trace`: elements and lengths read through its references, keys of
handles obtained), its remaining program, and its handles.  In particular, running alone to the same
point yields exactly the same sequence of read results. -/
theorem C18_interleaving_results (s : State) (t : Nat) (th0 : Thread) (h0 : s.threads[t]? = some th0)
    (sched : List Nat) (k : Nat) :
    ∃ a b, (run s sched).threads[t]? = some a ∧ (run s (List.replicate k t)).threads[t]? = some b ∧
      (a.loc.pc = b.loc.pc → a.loc = b.loc) :=
  let ⟨a, ha⟩ := run_thread sched s h0
  let ⟨b, hb⟩ := run_thread (List.replicate k t) s h0
  ⟨a, b, ha, hb, run_loc_of_pc s t h0 sched _ ha hb⟩

open Arimaa.Conc in
/-- **C18 (b2): the explanation.**  Under every schedule, (i) the local state of a thread and the part of
the immutable heap it can traverse are, at every moment, the result of running some number of its
instructions in the count-free, free-less *reference semantics* `refRun` (which never looks at a
count and in which nobody else exists), and (ii) no step ever changes `elem`, `next` or `len` of a node
that existed when the threads started: the only write to `fields` is the allocation of a fresh node
in the allocating thread's own arena. -/
theorem C18_frame (s : State) (t : Nat) (th0 : Thread) (h0 : s.threads[t]? = some th0) (sched : List Nat) :
    (∃ a n, (run s sched).threads[t]? = some a ∧
      (view t (run s sched).fields, a.loc) = refRun t s.roots n (view t s.fields, th0.loc)) ∧
    (∀ id, id.arena = 0 → (run s sched).fields id = s.fields id) ∧
    (∀ u id, id.arena ≠ u + 1 → (step s u).fields id = s.fields id) := by
  obtain ⟨a, ha⟩ := run_thread sched s h0
  obtain ⟨n, hn⟩ := run_obs t sched s h0 ha
  exact ⟨⟨a, n, ha, hn⟩, fun id h => run_fields_arena0 sched s id h, fun u id h => step_fields_other s u id h⟩

open Arimaa.Conc in
/-- **C18 (b3): the shared history is never freed under the threads' feet.**  If, when the threads start,
every node reachable from a shared root handle has its keeping reference counted (the root handle, or
its predecessor's `next`; `RootsSafe s s`), then under every schedule every such node is never freed and
its count stays positive — whatever the threads clone, append or drop. -/
theorem C18_roots_never_freed (s : State) (h : RootsSafe s s) (sched : List Nat) (id : NodeId) (tok : Owner)
    (hr : RootReach s id tok) :
    ((run s sched).arcs id).freed = false ∧ 0 < ((run s sched).arcs id).count := by
  have := (rootsSafe_run s sched s h).alive id tok hr
  exact ⟨this.2, List.length_pos_of_mem this.1⟩

open Arimaa.Conc in
/-- **C18 (b), for the shared handles.**  `C18_interleaving_results` and `C18_roots_never_freed` together: from an
initial state with `RootsSafe s s`, under every schedule a thread's local state is the one it has running alone
to the same instruction count, and no node reachable from a root handle of the shared state is freed.  (For the
handles the threads make themselves with `clone` / `append`: `C18_interleaving`, `Props/C18b.lean`.) -/
theorem C18_interleaving_partial (s : State) (t : Nat) (th0 : Thread) (h0 : s.threads[t]? = some th0)
    (hsafe : RootsSafe s s) (sched : List Nat) (k : Nat) :
    (∃ a b, (run s sched).threads[t]? = some a ∧ (run s (List.replicate k t)).threads[t]? = some b ∧
      (a.loc.pc = b.loc.pc → a.loc = b.loc)) ∧
    (∀ id tok, RootReach s id tok → ((run s sched).arcs id).freed = false ∧ 0 < ((run s sched).arcs id).count) :=
  ⟨C18_interleaving_results s t th0 h0 sched k, fun id tok hr => C18_roots_never_freed s hsafe sched id tok hr⟩

namespace C18Example
open Arimaa.Conc Arimaa.Conc.Example

/-- both threads finish under both schedules with the trace they have alone; thread 0 read
`len 3`, got handle 0, read `100 9 8 7`, `None`, `len 4`, got handle 1 -/
example :
    traceOf (run init schedA) 0 = some [some 1, some 4, none, some 7, some 8, some 9, some 100, some 0, some 3] ∧
    traceOf (run init schedB) 0 = traceOf (run init schedA) 0 ∧
    traceOf (run init (List.replicate 16 0)) 0 = traceOf (run init schedA) 0 ∧
    traceOf (run init schedB) 1 = traceOf (run init schedA) 1 ∧
    traceOf (run init (List.replicate 16 1)) 1 = traceOf (run init schedA) 1 := by
  decide +kernel

/-- counts do change, and frees do happen: afterwards each thread's private node is freed, the shared
head is back to count 1 and nothing shared was freed -/
example :
    ((run init schedA).arcs ⟨1, 0⟩).freed = true ∧ ((run init schedA).arcs ⟨2, 0⟩).freed = true ∧
    ((run init schedA).arcs n2).count = 1 ∧ ((run init schedA).arcs n2).freed = false ∧
    ((run init schedA).arcs n1).freed = false ∧ ((run init schedA).arcs n0).freed = false ∧
    ((run init [0, 0, 1, 1]).arcs n2).count = 3 := by
  decide +kernel

/-- the hypothesis of `C18_roots_never_freed` / `C18_interleaving_partial` holds for the example -/
example : RootsSafe init init := init_rootsSafe

/-- and all three nodes of the shared history are root-reachable -/
example : RootReach init n0 (.node n1) :=
  .next n1 (.node n2) ⟨8, some n0, 2⟩ n0
    (.next n2 (.root 0) ⟨9, some n1, 3⟩ n1 (.head 0 n2 rfl rfl) (by decide) rfl rfl) (by decide) rfl rfl

end C18Example

end Arimaa.Props
