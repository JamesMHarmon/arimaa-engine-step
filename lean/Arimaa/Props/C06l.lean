import Arimaa.Lemmas.RsAgreeList

/-!
The repetition test is `hash_history.iter().filter(|h| *h == hash).count() >= 2`.  `C06_code_*` (Props/C06r.lean)
treat `iter()` as the Lean list of entries; here: the iterator of `linked_list.rs` (regenerated on every run) yields
exactly the recorded entries, each once, newest first, and then ends.
-/

namespace Arimaa.Props
open Arimaa.Gen.RsList Arimaa.RsAgree.ListAgree

/-- **C06, code level (iteration).**  Draining `iter()` of a list the API can build yields its entries, all of them
and nothing else; so a count over the iterator is a count over the recorded positions. -/
theorem C06_code_history_iteration {T : Type} [BEq T] {l : Link T} (h : Built l) (x : T) (fuel : Nat)
    (hf : (toList l).length ≤ fuel) :
    drain fuel (List_iter l) = toList l ∧
    ((drain fuel (List_iter l)).filter (· == x)).length = ((toList l).filter (· == x)).length := by
  -- holds of every link, built or not
  have := iter_spec l fuel hf
  exact ⟨this, by rw [this]⟩

end Arimaa.Props
