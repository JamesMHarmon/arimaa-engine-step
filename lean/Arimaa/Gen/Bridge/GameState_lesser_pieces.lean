-- GENERATED by /verif/tools/gen.py -- do not edit.  Bridge from the current text of `GameState::lesser_pieces` to the baseline text.
import Arimaa.Gen.Rs
import Arimaa.Gen.RsBase
import Arimaa.Gen.BridgeLadder

namespace Arimaa.Gen.Bridge
open Arimaa Arimaa.Gen Arimaa.Rt

set_option maxHeartbeats 1000000 in
theorem bridge_GameState_lesser_pieces : @Rs.GameState_lesser_pieces = @RsBase.GameState_lesser_pieces := by
  funext a0 a1 a2
  rs_ladder [Rs.GameState_lesser_pieces, RsBase.GameState_lesser_pieces] [] (cases a1) [Rs.GameState_lesser_pieces, RsBase.GameState_lesser_pieces]

end Arimaa.Gen.Bridge
