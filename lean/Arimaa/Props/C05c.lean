import Arimaa.Props.C05

/-!
C20, engine side: how long the persistent history list of a reachable state is (stated with C05's
bookkeeping theorem).  Together with `C20_loop_bounded` (dropping, cloning and iterating a list of
ANY length needs a constant number of frames) this is the model-level reason why the stack use of
clone / drop / query does not grow with the game: the list grows by one node per capture-free turn
and is the only recursive data structure of a state.
-/
namespace Arimaa
open GameState

/-- **History length.**  Along every game played through the rule-only lists from a start state
(a finished setup or a parsed position), the recorded hash history has exactly one entry per start
of turn since the last capture — in particular never more entries than turns played plus one —
and every forgotten turn start has strictly more pieces than the current board. -/
theorem C05_history_length (s0 : GameState) (h0 : StartOk s0) (as : List Action)
    (ho : OfferedNR s0 as) :
    ∃ pp, (s0.run as).phase = .play pp ∧
      pp.hist.length ≤ (turnStarts s0 as).length ∧
      ∃ old recent, turnStarts s0 as = old ++ recent ∧ pp.hist.length = recent.length ∧
        (∀ p ∈ old, popcount (s0.run as).board.all < popcount p.1.all) := by
  obtain ⟨pp, hph, _, _, old, recent, hsplit, hhist, hold, _, _⟩ := C05_hash_bookkeeping s0 h0 as ho
  refine ⟨pp, hph, ?_, old, recent, hsplit, ?_, hold⟩
  · rw [hhist, hsplit]; simp
  · rw [hhist]; simp

/-- One action changes the history by at most one node: a step or pass either keeps the list,
clears it (capture) or conses one entry (turn end) — a bounded number of list operations, none of
which depends on the length of the list. -/
theorem C05_history_step (s : GameState) (pp : PlayPhase) (hph : s.phase = .play pp) (a : Action)
    (hmv : a = .pass ∨ ∃ i d, a = .move i d) :
    ∃ pp', (s.takeAction a).phase = .play pp' ∧ pp'.hist.length ≤ pp.hist.length + 1 := by
  cases he : endsTurn pp a
  · obtain ⟨i, d, rfl⟩ : ∃ i d, a = .move i d := hmv.resolve_left (by rintro rfl; cases he)
    rw [show s.takeAction (.move i d) = s.movePiece i d from rfl,
      movePiece_lt3 s pp hph i d (by simpa [endsTurn] using he)]
    refine ⟨_, rfl, ?_⟩
    show (if (s.board.takeMove i d).2 then [] else pp.hist).length ≤ _
    split <;> simp
  · obtain ⟨nb, cap, h, e⟩ := turnEnd_of_endsTurn s pp hph a he
    rw [e]
    refine ⟨_, rfl, ?_⟩
    show (h :: if cap then [] else pp.hist).length ≤ _
    split <;> simp

end Arimaa
