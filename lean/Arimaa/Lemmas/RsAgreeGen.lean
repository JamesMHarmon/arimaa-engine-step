import Arimaa.Lemmas.RsAgreeBoard
import Arimaa.Gen.Bridge.GameState_can_pass

/-!
Agreement of the baseline translation with the hand model: `can_pass`, the two generators with a panic site,
`valid_actions_` for either value of its flag with the agreement of the repetition filter as a hypothesis, and from it
the rule-only list `valid_actions_no_rep`.
-/
namespace Arimaa.RsAgree
open Arimaa.Gen.RsBase Arimaa.Rt

theorem can_pass_eq (s : GameState) (cr : Bool) :
    GameState_can_pass s cr = Res.guard (s.canPassPanics cr) (s.canPass cr) := by
  unfold GameState_can_pass GameState.canPassPanics GameState.canPass
  rw [as_play_phase]
  unfold GameState.playPhase?
  cases hp : s.phase with
  | place => rfl
  | play pp =>
    simp only [play_phase_step, ble_eq_decide, is_must_complete_push, unwrap_play_phase s pp hp, Res.bind_ok,
      zobrist_exclude_step, zobrist_pass, hash_history_contains_hash_twice_eq, bind_guard_guard, bind_guard_ok,
      cond_guard_ok, cond_ok_guard]
    simp only [Bool.cond_false_right, Bool.cond_true_left, Bool.not_not, Bool.and_assoc, ge_iff_le]

theorem extend_with_pull_piece_actions_eq (s : GameState) (pp : PlayPhase) (hp : s.phase = .play pp)
    (acc : List Action) (b : Board) :
    GameState_extend_with_pull_piece_actions s acc b =
      Res.guard (GameState.pullExtendPanics pp) (s.pullExtend pp b acc) := by
  unfold GameState_extend_with_pull_piece_actions GameState.pullExtendPanics GameState.pullExtend
  simp only [as_play_phase, GameState.playPhase?, hp, as_possible_pull]
  cases pp.pps with
  | none => rfl
  | mustCompletePush sq p => rfl
  | possiblePull sq p =>
    simp only [asBitBoard_eq, bind_guard_ok, opponent_piece_mask, lesser_pieces, shift_pieces_in_direction_eq,
      shift_pieces_in_opp_direction_eq, Bool.cond_not]
    simp only [Bool.cond_eq_ite]

theorem extend_with_pull_piece_actions_place (s : GameState) (hp : s.phase = .place)
    (acc : List Action) (b : Board) : GameState_extend_with_pull_piece_actions s acc b = .ok acc := by
  simp only [GameState_extend_with_pull_piece_actions, as_play_phase, GameState.playPhase?, hp]

theorem must_complete_push_actions_eq (s : GameState) (pp : PlayPhase) (hp : s.phase = .play pp) (b : Board) :
    GameState_must_complete_push_actions s b =
      Res.guard (GameState.mustCompletePushActionsPanics pp) (s.mustCompletePushActions pp b) := by
  unfold GameState_must_complete_push_actions GameState.mustCompletePushActionsPanics
    GameState.mustCompletePushActions
  simp only [unwrap_play_phase s pp hp, Res.bind_ok]
  cases pp.pps with
  | none => rfl
  | possiblePull sq p => rfl
  | mustCompletePush sq p =>
    simp only [PushPullState_unwrap_must_complete_push, Res.bind_ok, asBitBoard_eq, bind_guard_ok,
      curr_player_non_frozen_pieces, shift_pieces_in_opp_direction_eq, piece_type_at_bit_eq]
    rw [foldl_cond_append, List.nil_append]

/-- `hrem` instead of `remove_passing_like_actions_eq`: the rule-only instance passes `nofun` and stays clear of
`RsAgreeRep` -/
theorem valid_actions__of (s : GameState) (cr : Bool)
    (hrem : cr = true → ∀ pp, s.phase = .play pp → ∀ va, GameState_remove_passing_like_actions s va =
      Res.guard (s.removePassingLikeActionsPanics pp va) (s.removePassingLikeActions pp va)) :
    GameState_valid_actions_ s cr = Res.guard (s.validActions_Panics cr) (s.validActions_ cr) := by
  unfold GameState_valid_actions_ GameState.validActions_Panics GameState.validActions_
  cases hp : s.phase with
  | place => exact congrArg Res.ok (valid_placement s)
  | play pp =>
    simp only [game_state_piece_board, is_must_complete_push, must_complete_push_actions_eq s pp hp,
      extend_with_push_piece_actions s pp _ _ hp, extend_with_pull_piece_actions_eq s pp hp,
      extend_with_valid_curr_player_piece_moves, can_pass_eq, bind_guard_guard, bind_guard_ok, cond_guard]
    -- `rw`, not `simp`: as a `rfl`-lemma `List.nil_append` would leave the kernel to compare `[] ++ l` with `l`
    -- by unfolding the generator `l` stands for
    rw [List.nil_append]
    cases cr
    · simp only [cond_false, Res.bind_ok_right]
      simp only [Bool.cond_eq_ite, Bool.false_and, Bool.or_false, Bool.false_eq_true, if_false]
    · simp only [cond_true, hrem rfl pp hp, bind_guard_guard, GameState.rawActions]
      simp only [Bool.cond_eq_ite, Bool.true_and, if_true]

/-- the rule-only list, proved WITHOUT the lemmas about the repetition filter: C01 / C12 do not rest on it -/
theorem valid_actions_no_rep_direct (s : GameState) :
    GameState_valid_actions_no_rep s = Res.guard s.validActionsNoRepPanics s.validActionsNoRep :=
  valid_actions__of s false nofun

end Arimaa.RsAgree

namespace Arimaa.Code
open Arimaa.Gen.Rs Arimaa.Rt Arimaa.Gen.Bridge

theorem can_pass (s : GameState) (cr : Bool) :
    GameState_can_pass s cr = Res.guard (s.canPassPanics cr) (s.canPass cr) :=
  bridge_GameState_can_pass ▸ RsAgree.can_pass_eq s cr

end Arimaa.Code
