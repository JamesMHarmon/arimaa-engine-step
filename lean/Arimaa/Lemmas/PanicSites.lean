import Arimaa.Impl.Panics
import Arimaa.Lemmas.Bits
import Arimaa.Lemmas.PanicAttr

/-!
The guards of `Impl/Panics.lean` in site form.  A guard is composed of the guards of its callees; at the leaves stand
the panic sites of the crate.  Each leaf guard gets its exact condition on EVERY argument
(`sqBitPanics sq = decide (64 ≤ sq)`, …) and the composed guards follow by unfolding: the simp set `panic_eq`.  "False on
a reachable state" and "true off the invariant" are both readings of these equations.
-/
namespace Arimaa
open Gen GameState

@[panic_eq] theorem sqBitPanics_eq (sq : Nat) : sqBitPanics sq = decide (64 ≤ sq) := rfl

theorem sqBitPanics_false {sq : Nat} (h : sq < 64) : sqBitPanics sq = false :=
  decide_eq_false (Nat.not_le.2 h)

@[panic_eq] theorem stepValuePanics_eq (n : Nat) : stepValuePanics n = decide (4 ≤ n) := by
  rw [stepValuePanics, show Z_STEP_VALUES.length = 4 by decide]

/-- `STEP_VALUES[0]` (the turn-start entry every turn change toggles) is in range -/
@[panic_eq] theorem four_le_zero : decide (4 ≤ 0) = false := rfl

theorem table_dims :
    (Z_SQUARE_VALUES.length = 12 ∧ ∀ i : Fin 12, (Z_SQUARE_VALUES.getD i.1 []).length = 64) ∧
    (Z_PUSH_VALUES.length = 5 ∧ ∀ i : Fin 5, (Z_PUSH_VALUES.getD i.1 []).length = 64) ∧
    (Z_POSSIBLE_PULL_VALUES.length = 5 ∧ ∀ i : Fin 5, (Z_POSSIBLE_PULL_VALUES.getD i.1 []).length = 64) := by
  decide +kernel

theorem tbl2Panics_eq (t : List (List BB)) (n : Nat)
    (hd : t.length = n ∧ ∀ i : Fin n, (t.getD i.1 []).length = 64) (i : Nat) (hi : i < n) (sq : Nat) :
    tbl2Panics t i sq = decide (64 ≤ sq) := by
  unfold tbl2Panics
  rw [hd.1, hd.2 ⟨i, hi⟩, decide_eq_false (Nat.not_le.mpr hi), Bool.false_or]

@[panic_eq] theorem pieceValuePanics_eq (sq : Nat) (p : Piece) (o : Bool) :
    pieceValuePanics sq p o = decide (64 ≤ sq) := by
  cases p <;> cases o <;> exact tbl2Panics_eq _ 12 table_dims.1 _ (by decide) sq

theorem pieceValuePanics_true (sq : Nat) (p : Piece) (o : Bool) (h : 64 ≤ sq) :
    pieceValuePanics sq p o = true := by
  rw [pieceValuePanics_eq]; exact decide_eq_true h

/-- S6 then S5 -/
@[panic_eq] theorem pushPieceValuePanics_eq (sq : Nat) (p : Piece) :
    pushPieceValuePanics sq p = (p == .elephant || decide (64 ≤ sq)) := by
  cases p
  case elephant => rfl
  all_goals exact tbl2Panics_eq _ 5 table_dims.2.1 _ (by decide) sq

/-- S7 then S5 -/
@[panic_eq] theorem pullPieceValuePanics_eq (sq : Nat) (p : Piece) :
    pullPieceValuePanics sq p = (p == .rabbit || decide (64 ≤ sq)) := by
  cases p
  case rabbit => rfl
  all_goals exact tbl2Panics_eq _ 5 table_dims.2.2 _ (by decide) sq

@[panic_eq] theorem xorOverPanics_eq (x : BB) (p : Piece) (o : Bool) : xorOverPanics x p o = false := by
  unfold xorOverPanics
  rw [List.any_eq_false]
  intro sq hsq
  rw [pieceValuePanics_eq, decide_eq_false (Nat.not_le.2 ((mem_squaresOf x sq).mp hsq).1)]
  exact Bool.false_ne_true

@[panic_eq] theorem pieceBoardValuePanics_eq (prev new : Board) : pieceBoardValuePanics prev new = false :=
  List.any_eq_false.2 fun _ _ => by rw [xorOverPanics_eq]; exact Bool.false_ne_true

@[panic_eq] theorem zFromPieceBoardPanics_eq (b : Board) (step : Nat) :
    zFromPieceBoardPanics b step = decide (4 ≤ step) := by
  have : (planes.any fun op => xorOverPanics (b.bitsForPiece op.2 op.1) op.2 op.1) = false :=
    List.any_eq_false.2 fun _ _ => by rw [xorOverPanics_eq]; exact Bool.false_ne_true
  rw [zFromPieceBoardPanics, this, Bool.or_false, stepValuePanics_eq]

attribute [panic_eq] stepValue2Panics zMovePiecePanics zPlacePiecePanics
  zPassPanics zExcludeStepPanics zWithPPSPanics Board.pieceTypeAtSquarePanics Board.movePiecePanics
  Board.takeActionPanics usizeAddPanics
  Bool.or_false Bool.false_or Bool.and_false Bool.false_and Bool.or_self decide_false

theorem showStatePanics_false (s : GameState) : s.showStatePanics = false := by
  unfold showStatePanics
  rw [List.any_eq_false]
  intro idx hidx
  have h64 : BOARD_HEIGHT * BOARD_WIDTH = 64 := by decide
  rw [h64, List.mem_range] at hidx
  simp [Board.pieceTypeAtSquarePanics, sqBitPanics_false hidx]

-- The two guards that need the phase and nothing else of a play state.  Here and not in `PanicPlay`: `Props/C14r.lean`
-- reads `pieceBoardForStepPanics_eq` and stays free of `Enabled` and the bit-level lemmas under it.
theorem stepPanics_false (s : GameState) (pp : PlayPhase) (hph : s.phase = .play pp) :
    s.stepPanics = false := by
  simp [stepPanics, unwrapPlayPhasePanics, isPlay, playPhase?, hph]

theorem pieceBoardForStepPanics_eq (s : GameState) (pp : PlayPhase) (hph : s.phase = .play pp)
    (i : Nat) : s.pieceBoardForStepPanics i = decide (pp.step < i) := by
  unfold pieceBoardForStepPanics
  rw [hph]
  show (decide (i ≠ pp.prev.length) && decide (i ≥ pp.prev.length)) = decide (pp.prev.length < i)
  rw [← Bool.decide_and]
  exact decide_eq_decide.mpr (by omega)

/-- S13: `BOARD_HEIGHT - index / BOARD_WIDTH` underflows from index 72 on -/
@[panic_eq] theorem sqRowPanics_eq (sq : Nat) : sqRowPanics sq = decide (72 ≤ sq) :=
  decide_eq_decide.2 (by unfold BOARD_WIDTH BOARD_HEIGHT; omega)

attribute [panic_eq] showSquarePanics

theorem showActionPanics_false {a : Action} (h : ∀ sq d, a = .move sq d → sq < 64) :
    showActionPanics a = false := by
  cases a with
  | move sq d => simpa [showActionPanics, panic_eq] using Nat.lt_of_lt_of_le (h sq d rfl) (by decide)
  | _ => rfl

end Arimaa
