import Arimaa.Spec.Symmetry
import Arimaa.Lemmas.SpecMachine

/-!
The rules are invariant under the symmetries of `Spec/Symmetry.lean`.  A symmetry is an involution
that acts on rank and file separately (`sq_rank_file`) and respects traps, goal ranks and neighbours
(`geometry`, a table over the 64 squares); it therefore commutes with the three combinators of the
rules (`nbAny_sq_congr`, `any_dir`, `any_range_sq`), hence with every predicate built from them, and is
an automorphism of the turn machine (`enabled_act`, `next_act`).  A lemma `X_sq` says that `X` at the
image arguments is `X`, or its image, at the arguments.
-/
namespace Arimaa.Spec

theorem beq_invol {α : Type} [BEq α] [LawfulBEq α] (φ : α → α) (hφ : ∀ a, φ (φ a) = a) (a b : α) :
    (φ a == φ b) = (a == b) := by
  rw [Bool.eq_iff_iff]; simp only [beq_iff_eq]
  exact ⟨fun h => by rw [← hφ a, h, hφ], fun h => by rw [h]⟩

theorem any_invol {α : Type} (l : List α) (φ : α → α) (hφ : ∀ a, φ (φ a) = a) (hl : ∀ a, a ∈ l → φ a ∈ l)
    (f g : α → Bool) (h : ∀ a, a ∈ l → f (φ a) = g a) : l.any f = l.any g := by
  rw [Bool.eq_iff_iff]
  simp only [List.any_eq_true]
  constructor
  · rintro ⟨a, ha, hf⟩; exact ⟨φ a, hl a ha, by rw [← h _ (hl a ha), hφ]; exact hf⟩
  · rintro ⟨a, ha, hg⟩; exact ⟨φ a, hl a ha, by rw [h a ha]; exact hg⟩

namespace Sym

theorem sq_of_ge (σ : Sym) (i : Nat) (h : 64 ≤ i) : σ.sq i = i := by
  simp only [sq, Nat.not_lt.2 h, if_false]

/-- proof devices, this and `file`: the action on `i / 8` and on `i % 8` -/
def rank : Sym → Nat → Nat
  | .mirror, r => r
  | _, r => 7 - r

def file : Sym → Nat → Nat
  | .swap, f => f
  | _, f => 7 - f

theorem rank_lt (σ : Sym) (r : Nat) (h : r < 8) : σ.rank r < 8 := by
  cases σ <;> simp only [rank] <;> omega

theorem file_lt (σ : Sym) (f : Nat) (h : f < 8) : σ.file f < 8 := by
  cases σ <;> simp only [file] <;> omega

theorem rank_rank (σ : Sym) (r : Nat) (h : r < 8) : σ.rank (σ.rank r) = r := by
  cases σ <;> simp only [rank] <;> omega

theorem file_file (σ : Sym) (f : Nat) (h : f < 8) : σ.file (σ.file f) = f := by
  cases σ <;> simp only [file] <;> omega

/-- this is what makes a symmetry an involution and `both` the composition of the other two -/
theorem sq_rank_file (σ : Sym) (i : Nat) (h : i < 64) : σ.sq i = σ.rank (i / 8) * 8 + σ.file (i % 8) := by
  simp only [sq, h, if_true]; cases σ <;> rfl

theorem sq_div (σ : Sym) (i : Nat) (h : i < 64) : σ.sq i / 8 = σ.rank (i / 8) := by
  rw [sq_rank_file σ i h, Nat.mul_comm, Nat.mul_add_div (by decide),
    Nat.div_eq_of_lt (file_lt σ _ (Nat.mod_lt i (by decide))), Nat.add_zero]

theorem sq_mod (σ : Sym) (i : Nat) (h : i < 64) : σ.sq i % 8 = σ.file (i % 8) := by
  rw [sq_rank_file σ i h, Nat.mul_comm, Nat.mul_add_mod, Nat.mod_eq_of_lt (file_lt σ _ (Nat.mod_lt i (by decide)))]

theorem sq_lt (σ : Sym) (i : Nat) (h : i < 64) : σ.sq i < 64 := by
  have hr := rank_lt σ (i / 8) (Nat.div_lt_of_lt_mul h)
  have hf := file_lt σ (i % 8) (Nat.mod_lt i (by decide))
  rw [sq_rank_file σ i h]; omega

theorem sq_sq (σ : Sym) (i : Nat) : σ.sq (σ.sq i) = i := by
  by_cases h : i < 64
  · rw [sq_rank_file σ _ (sq_lt σ i h), sq_div σ i h, sq_mod σ i h, rank_rank σ _ (Nat.div_lt_of_lt_mul h),
      file_file σ _ (Nat.mod_lt i (by decide)), Nat.div_add_mod']
  · rw [sq_of_ge σ i (Nat.le_of_not_lt h), sq_of_ge σ i (Nat.le_of_not_lt h)]

theorem sq_lt_iff (σ : Sym) (i : Nat) : σ.sq i < 64 ↔ i < 64 := by
  constructor
  · intro h; have := sq_lt σ _ h; rwa [sq_sq] at this
  · exact sq_lt σ i

theorem sq_eq_iff (σ : Sym) (i j : Nat) : σ.sq i = j ↔ i = σ.sq j := by
  constructor
  · intro h; rw [← h, sq_sq]
  · intro h; rw [h, sq_sq]

theorem sq_beq (σ : Sym) (i j : Nat) : (σ.sq i == σ.sq j) = (i == j) := beq_invol _ σ.sq_sq i j

theorem both_sq (i : Nat) : both.sq i = mirror.sq (swap.sq i) := by
  by_cases h : i < 64
  · rw [sq_rank_file mirror _ (sq_lt swap i h), sq_div swap i h, sq_mod swap i h, sq_rank_file both i h]; rfl
  · rw [sq_of_ge _ i (Nat.le_of_not_lt h), sq_of_ge _ i (Nat.le_of_not_lt h), sq_of_ge _ i (Nat.le_of_not_lt h)]

theorem both_sq_rev (i : Nat) : both.sq i = swap.sq (mirror.sq i) := by
  by_cases h : i < 64
  · rw [sq_rank_file swap _ (sq_lt mirror i h), sq_div mirror i h, sq_mod mirror i h, sq_rank_file both i h]; rfl
  · rw [sq_of_ge _ i (Nat.le_of_not_lt h), sq_of_ge _ i (Nat.le_of_not_lt h), sq_of_ge _ i (Nat.le_of_not_lt h)]

theorem both_sq_eq (i : Nat) (h : i < 64) : both.sq i = 63 - i := by
  -- rank by rank and file by file, a square and its image add up to 7 * 8 + 7
  refine Nat.eq_sub_of_add_eq ?_
  conv => lhs; rhs; rw [← Nat.div_add_mod' i 8]
  rw [sq_rank_file both i h, Nat.add_add_add_comm, ← Nat.add_mul]
  show (7 - i / 8 + i / 8) * 8 + (7 - i % 8 + i % 8) = 63
  rw [Nat.sub_add_cancel (Nat.le_of_lt_succ (Nat.div_lt_of_lt_mul h)),
    Nat.sub_add_cancel (Nat.le_of_lt_succ (Nat.mod_lt i (by decide)))]

theorem both_dir (d : Dir) : both.dir d = mirror.dir (swap.dir d) := by cases d <;> rfl

theorem both_col (g : Bool) : both.col g = mirror.col (swap.col g) := rfl

theorem dir_dir (σ : Sym) (d : Dir) : σ.dir (σ.dir d) = d := by cases σ <;> cases d <;> rfl

theorem dir_beq (σ : Sym) (a b : Dir) : (σ.dir a == σ.dir b) = (a == b) := beq_invol _ σ.dir_dir a b

theorem col_col (σ : Sym) (g : Bool) : σ.col (σ.col g) = g := by cases σ <;> cases g <;> rfl

theorem col_inj (σ : Sym) {x y : Bool} (h : σ.col x = σ.col y) : x = y := by
  rw [← σ.col_col x, h, σ.col_col]

theorem col_not (σ : Sym) (g : Bool) : σ.col (!g) = !σ.col g := by cases σ <;> cases g <;> rfl

theorem col_beq (σ : Sym) (a b : Bool) : (σ.col a == σ.col b) = (a == b) := beq_invol _ σ.col_col a b

theorem col_bne (σ : Sym) (a b : Bool) : (σ.col a != σ.col b) = (a != b) := congrArg not (σ.col_beq a b)

theorem map_cell_cell (σ : Sym) (o : Option Cell) : (o.map σ.cell).map σ.cell = o := by
  cases o <;> simp only [Option.map, cell, col_col]

theorem cell_beq (σ : Sym) (o : Option Cell) (c : Cell) : (o.map σ.cell == some (σ.cell c)) = (o == some c) :=
  beq_invol (Option.map σ.cell) σ.map_cell_cell o (some c)

theorem res_res (σ : Sym) (r : Result) : σ.res (σ.res r) = r := by cases σ <;> cases r <;> rfl

theorem pend_pend (σ : Sym) (p : Pending) : σ.pend (σ.pend p) = p := by
  cases p <;> simp only [pend, sq_sq]

theorem pend_isPush (σ : Sym) (p : Pending) : (σ.pend p).isPush = p.isPush := by cases p <;> rfl

theorem passEnabled_pend (σ : Sym) (step : Nat) (p : Pending) :
    passEnabled step (σ.pend p) = passEnabled step p :=
  congrArg (decide (1 ≤ step) && !·) (σ.pend_isPush p)

theorem board_apply (σ : Sym) (b : Board) (k : Nat) : σ.board b k = (b (σ.sq k)).map σ.cell := rfl

theorem board_sq (σ : Sym) (b : Board) (i : Nat) : σ.board b (σ.sq i) = (b i).map σ.cell := by
  rw [board_apply, sq_sq]

theorem board_board (σ : Sym) (b : Board) : σ.board (σ.board b) = b := by
  funext k
  rw [board_apply, board_apply, sq_sq, map_cell_cell]

theorem board_inj (σ : Sym) {x y : Board} (h : σ.board x = σ.board y) : x = y := by
  rw [← σ.board_board x, h, σ.board_board]

theorem board_ge (σ : Sym) (b : Board) (hb : ∀ k, 64 ≤ k → b k = none) (k : Nat) (hk : 64 ≤ k) :
    σ.board b k = none := by
  rw [board_apply, sq_of_ge σ k hk, hb k hk]; rfl

abbrev Respects (σ : Sym) (j : Nat) : Prop :=
  isTrap (σ.sq j) = isTrap j ∧ (∀ g, onGoalRank (σ.col g) (σ.sq j) = onGoalRank g j) ∧
    ∀ d ∈ Dir.all, nbr (σ.sq j) (σ.dir d) = (nbr j d).map σ.sq

/-- `mirror` and `swap` are checked square by square; `both` is one after the other. -/
theorem geometry (σ : Sym) (j : Nat) (hj : j < 64) : Respects σ j := by
  have hm : ∀ j : Fin 64, Respects mirror j := by decide +kernel
  have hs : ∀ j : Fin 64, Respects swap j := by decide +kernel
  cases σ with
  | mirror => exact hm ⟨j, hj⟩
  | swap => exact hs ⟨j, hj⟩
  | both =>
    obtain ⟨t1, g1, n1⟩ := hs ⟨j, hj⟩
    obtain ⟨t2, g2, n2⟩ := hm ⟨swap.sq j, sq_lt swap j hj⟩
    refine ⟨by rw [both_sq]; exact t2.trans t1, fun g => by rw [both_sq, both_col]; exact (g2 _).trans (g1 g),
      fun d hd => ?_⟩
    rw [both_sq, both_dir, n2 _ (Dir.mem_all _), n1 d hd, Option.map_map]
    exact congrArg (fun f => (nbr j d).map f) (funext fun i => (both_sq i).symm)

theorem nbr_sq (σ : Sym) (i : Nat) (d : Dir) (hi : i < 64) :
    nbr (σ.sq i) (σ.dir d) = (nbr i d).map σ.sq :=
  (geometry σ i hi).2.2 d (Dir.mem_all d)

theorem isTrap_sq (σ : Sym) (i : Nat) : isTrap (σ.sq i) = isTrap i := by
  by_cases hi : i < 64
  · exact (geometry σ i hi).1
  · rw [sq_of_ge σ i (Nat.le_of_not_lt hi)]

theorem onGoalRank_sq (σ : Sym) (g : Bool) (i : Nat) (hi : i < 64) :
    onGoalRank (σ.col g) (σ.sq i) = onGoalRank g i :=
  (geometry σ i hi).2.1 g

theorem backward_col (σ : Sym) (g : Bool) : backward (σ.col g) = σ.dir (backward g) := by
  cases σ <;> cases g <;> rfl

theorem win_col (σ : Sym) (g : Bool) : win (σ.col g) = σ.res (win g) := by
  cases σ <;> cases g <;> rfl

theorem any_dir (σ : Sym) (f g : Dir → Bool) (h : ∀ d, f (σ.dir d) = g d) : Dir.all.any f = Dir.all.any g :=
  any_invol _ σ.dir σ.dir_dir (fun _ _ => Dir.mem_all _) f g (fun d _ => h d)

theorem any_range_sq (σ : Sym) (f g : Nat → Bool) (h : ∀ i, i < 64 → f (σ.sq i) = g i) :
    (List.range 64).any f = (List.range 64).any g :=
  any_invol _ σ.sq σ.sq_sq (fun i hi => List.mem_range.2 (sq_lt σ i (List.mem_range.1 hi))) f g
    (fun i hi => h i (List.mem_range.1 hi))

theorem nbAny_sq_congr (σ : Sym) (f g : Nat → Bool) (i : Nat) (hi : i < 64)
    (hfg : ∀ j, j < 64 → f (σ.sq j) = g j) : nbAny f (σ.sq i) = nbAny g i := by
  rw [nbAny_eq, nbAny_eq]
  refine any_dir σ _ _ fun d => ?_
  rw [nbr_sq σ i d hi]
  cases hn : nbr i d with
  | none => rfl
  | some j => exact hfg j (nbr_lt i j d hi hn)

theorem ownedBy_sq (σ : Sym) (b : Board) (g : Bool) (j : Nat) :
    ownedBy (σ.board b) (σ.col g) (σ.sq j) = ownedBy b g j := by
  unfold ownedBy
  rw [board_sq]
  cases b j <;> simp only [Option.map, cell, col_beq]

theorem hasFriend_sq (σ : Sym) (b : Board) (i : Nat) (g : Bool) (hi : i < 64) :
    hasFriend (σ.board b) (σ.sq i) (σ.col g) = hasFriend b i g :=
  nbAny_sq_congr σ _ _ i hi (fun j _ => ownedBy_sq σ b g j)

theorem hasStrongerEnemy_sq (σ : Sym) (b : Board) (i : Nat) (g : Bool) (s : Nat) (hi : i < 64) :
    hasStrongerEnemy (σ.board b) (σ.sq i) (σ.col g) s = hasStrongerEnemy b i g s := by
  refine nbAny_sq_congr σ _ _ i hi (fun j _ => ?_)
  rw [board_sq]
  cases b j <;> simp only [Option.map, cell, col_bne]

theorem frozen_sq (σ : Sym) (b : Board) (i : Nat) (hi : i < 64) :
    frozen (σ.board b) (σ.sq i) = frozen b i := by
  unfold frozen
  rw [board_sq]
  cases b i <;> simp only [Option.map, cell, hasFriend_sq σ b i _ hi, hasStrongerEnemy_sq σ b i _ _ hi]

theorem hasPusher_sq (σ : Sym) (b : Board) (g : Bool) (i : Nat) (s : Nat) (hi : i < 64) :
    hasPusher (σ.board b) (σ.col g) (σ.sq i) s = hasPusher b g i s := by
  refine nbAny_sq_congr σ _ _ i hi (fun j hj => ?_)
  rw [board_sq, frozen_sq σ b j hj]
  cases b j <;> simp only [Option.map, cell, col_beq]

theorem ownStep_sq (σ : Sym) (b : Board) (g : Bool) (i : Nat) (d : Dir) (hi : i < 64) :
    ownStep (σ.board b) (σ.col g) (σ.sq i) (σ.dir d) = ownStep b g i d := by
  unfold ownStep
  rw [board_sq, nbr_sq σ i d hi, frozen_sq σ b i hi]
  cases b i <;> cases nbr i d <;> try rfl
  simp only [Option.map_some, cell, col_beq, board_sq, backward_col, dir_beq, Option.isNone_map]

theorem pushStart_sq (σ : Sym) (b : Board) (g : Bool) (step : Nat) (i : Nat) (d : Dir) (hi : i < 64) :
    pushStart (σ.board b) (σ.col g) step (σ.sq i) (σ.dir d) = pushStart b g step i d := by
  unfold pushStart
  rw [board_sq, nbr_sq σ i d hi]
  cases b i <;> cases nbr i d <;> try rfl
  simp only [Option.map_some, cell, col_bne, board_sq, hasPusher_sq σ b g i _ hi, Option.isNone_map]

theorem pullEnd_sq (σ : Sym) (b : Board) (g : Bool) (p : Pending) (i : Nat) (d : Dir) (hi : i < 64) :
    pullEnd (σ.board b) (σ.col g) (σ.pend p) (σ.sq i) (σ.dir d) = pullEnd b g p i d := by
  unfold pullEnd
  rw [board_sq, nbr_sq σ i d hi]
  cases p <;> cases b i <;> cases nbr i d <;> try rfl
  simp only [pend, Option.map_some, cell, col_bne, board_sq, sq_beq, Option.isNone_map]

theorem pushEnd_sq (σ : Sym) (b : Board) (g : Bool) (p : Pending) (i : Nat) (d : Dir) (hi : i < 64) :
    pushEnd (σ.board b) (σ.col g) (σ.pend p) (σ.sq i) (σ.dir d) = pushEnd b g p i d := by
  unfold pushEnd
  rw [board_sq, nbr_sq σ i d hi, frozen_sq σ b i hi]
  cases p <;> cases b i <;> cases nbr i d <;> try rfl
  simp only [pend, Option.map_some, cell, col_beq, board_sq, sq_beq, Option.isNone_map]

theorem enabledMove_sq (σ : Sym) (b : Board) (g : Bool) (step : Nat) (p : Pending) (i : Nat) (d : Dir)
    (hi : i < 64) :
    enabledMove (σ.board b) (σ.col g) step (σ.pend p) (σ.sq i) (σ.dir d) = enabledMove b g step p i d := by
  unfold enabledMove
  rw [pend_isPush, pushEnd_sq σ b g p i d hi, ownStep_sq σ b g i d hi, pushStart_sq σ b g step i d hi,
    pullEnd_sq σ b g p i d hi]

theorem nextPending_sq (σ : Sym) (b : Board) (g : Bool) (p : Pending) (i : Nat) (d : Dir) (hi : i < 64) :
    nextPending (σ.board b) (σ.col g) (σ.pend p) (σ.sq i) (σ.dir d) = σ.pend (nextPending b g p i d) := by
  unfold nextPending
  rw [board_sq, pullEnd_sq σ b g p i d hi, pend_isPush]
  cases b i with
  | none => rfl
  | some c => simp only [Option.map_some, cell, col_bne, apply_ite σ.pend]; rfl

theorem move_sq (σ : Sym) (b : Board) (i j : Nat) :
    move (σ.board b) (σ.sq i) (σ.sq j) = σ.board (move b i j) := by
  funext k
  simp only [move, board_apply, sq_sq, ← sq_eq_iff σ k]
  split
  · rfl
  · split <;> rfl

theorem capture_sq (σ : Sym) (b : Board) : capture (σ.board b) = σ.board (capture b) := by
  funext k
  simp only [capture, board_apply]
  cases b (σ.sq k) with
  | none => rfl
  | some c =>
    simp only [Option.map, cell, isTrap_sq]
    cases hk : isTrap k with
    | false => rfl
    | true =>
      have := hasFriend_sq σ b (σ.sq k) c.gold (sq_lt σ k (isTrap_lt k hk))
      rw [sq_sq] at this
      rw [this]; split <;> rfl

theorem applyStep_sq (σ : Sym) (b : Board) (i : Nat) (d : Dir) (hi : i < 64) :
    applyStep (σ.board b) (σ.sq i) (σ.dir d) = σ.board (applyStep b i d) := by
  unfold applyStep
  rw [nbr_sq σ i d hi]
  cases nbr i d with
  | none => rfl
  | some j => exact (congrArg capture (move_sq σ b i j)).trans (capture_sq σ _)

theorem rabbitOnGoal_sq (σ : Sym) (b : Board) (g : Bool) :
    rabbitOnGoal (σ.board b) (σ.col g) = rabbitOnGoal b g :=
  any_range_sq σ _ _ fun i hi => by
    rw [board_sq, onGoalRank_sq σ g i hi]; exact congrArg (· && _) (cell_beq σ (b i) ⟨g, .rabbit⟩)

theorem hasRabbit_sq (σ : Sym) (b : Board) (g : Bool) :
    hasRabbit (σ.board b) (σ.col g) = hasRabbit b g :=
  any_range_sq σ _ _ fun i _ => by rw [board_sq]; exact cell_beq σ (b i) ⟨g, .rabbit⟩

theorem hasStep_sq (σ : Sym) (b : Board) (g : Bool) :
    hasStep (σ.board b) (σ.col g) = hasStep b g :=
  any_range_sq σ _ _ fun i hi => any_dir σ _ _ fun d => enabledMove_sq σ b g 0 .none i d hi

theorem result_sq (σ : Sym) (b : Board) (g : Bool) :
    result (σ.board b) (σ.col g) = (result b g).map σ.res := by
  unfold result
  -- `← col_not` writes the loser's colour `!σ.col g` as `σ.col (!g)`, so that the scans' lemmas apply
  simp only [← col_not, rabbitOnGoal_sq, hasRabbit_sq, hasStep_sq, win_col, apply_ite (Option.map σ.res),
    Option.map_some, Option.map_none]

theorem act_act (σ : Sym) (a : Act) : σ.act (σ.act a) = a := by
  cases a <;> simp only [act, sq_sq, dir_dir]

theorem state_state (σ : Sym) (s : State) : σ.state (σ.state s) = s := by
  cases s; simp only [state, board_board, col_col, pend_pend]

theorem enabled_act (σ : Sym) (s : State) (a : Act) : (σ.state s).enabled (σ.act a) = s.enabled a := by
  cases a with
  | pass => exact σ.passEnabled_pend s.step s.pend
  | move i d =>
    by_cases hi : i < 64
    · simp only [act, state, State.enabled, σ.enabledMove_sq _ _ _ _ i d hi, hi, σ.sq_lt i hi]
    · simp only [act, State.enabled, hi, mt (σ.sq_lt_iff i).1 hi, decide_false, Bool.false_and]

theorem next_act (σ : Sym) (s : State) (a : Act) (h : s.enabled a = true) :
    (σ.state s).next (σ.act a) = σ.state (s.next a) := by
  cases a with
  | pass => simp only [act, state, State.next, col_not, pend]
  | move i d =>
    have hi := ((s.enabled_move_iff i d).1 h).1
    by_cases h3 : s.step < 3
    · rw [act, State.next_mid s i d h3, State.next_mid (σ.state s) _ _ h3]
      simp only [state, applyStep_sq σ s.board i d hi, nextPending_sq σ s.board s.gold s.pend i d hi]
    · rw [act, State.next_last s i d h3, State.next_last (σ.state s) _ _ h3]
      simp only [state, applyStep_sq σ s.board i d hi, col_not, pend]

/-- whole games: `enabled_act` and `next_act` along the list -/
theorem run_act (σ : Sym) (s : State) (as : List Act) :
    (σ.state s).run (as.map σ.act) = (s.run as).map σ.state := by
  induction as generalizing s with
  | nil => rfl
  | cons a as ih =>
    simp only [List.map_cons, State.run, σ.enabled_act s a]
    cases h : s.enabled a with
    | false => rfl
    | true => simp only [if_true]; rw [σ.next_act s a h, ih]

theorem trace_act (σ : Sym) (s : State) (as : List Act) :
    State.trace (σ.state s) (as.map σ.act) = (State.trace s as).map (List.map σ.state) := by
  induction as generalizing s with
  | nil => rfl
  | cons a as ih =>
    simp only [List.map_cons, State.trace, σ.enabled_act s a]
    cases h : s.enabled a with
    | false => rfl
    | true =>
      simp only [if_true]
      rw [σ.next_act s a h, ih]
      cases State.trace (s.next a) as <;> rfl

theorem result_state (σ : Sym) (s : State) : (σ.state s).result = s.result.map σ.res := by
  unfold State.result
  simp only [state]
  by_cases h0 : s.step = 0
  · simp only [h0, if_true]; exact σ.result_sq s.board s.gold
  · simp only [h0, if_false]; rfl

end Sym

end Arimaa.Spec
