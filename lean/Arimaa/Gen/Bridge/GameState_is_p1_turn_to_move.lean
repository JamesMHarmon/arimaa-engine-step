-- GENERATED by /verif/tools/gen.py -- do not edit.  Bridge from the current text of `GameState::is_p1_turn_to_move` to the baseline text.
import Arimaa.Gen.Rs
import Arimaa.Gen.RsBase
import Arimaa.Gen.BridgeLadder

namespace Arimaa.Gen.Bridge
open Arimaa Arimaa.Gen Arimaa.Rt

set_option maxHeartbeats 1000000 in
theorem bridge_GameState_is_p1_turn_to_move : @Rs.GameState_is_p1_turn_to_move = @RsBase.GameState_is_p1_turn_to_move := by
  funext a0
  rs_ladder [Rs.GameState_is_p1_turn_to_move, RsBase.GameState_is_p1_turn_to_move] [] (skip) [Rs.GameState_is_p1_turn_to_move, RsBase.GameState_is_p1_turn_to_move]

end Arimaa.Gen.Bridge
