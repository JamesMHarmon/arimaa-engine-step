import Arimaa.Lemmas.RsAgreeBoard
import Arimaa.Gen.Bridge.GameState_fmt

/-!
Agreement of the baseline translation with the hand model: `Display for GameState` (display.rs) — the text the
translated `fmt` appends to the formatter is `showState` of `Impl/Text.lean`, and it never panics.
(`write!` / `writeln!` are rendered as appending the formatted pieces to the text written so far.)
-/
namespace Arimaa.RsAgree
open Arimaa.Gen Arimaa.Gen.RsBase Arimaa.Rt

theorem is_p1_piece_eq (bit : BB) (b : Board) : is_p1_piece bit b = isP1Piece bit b := by
  simp only [is_p1_piece, isP1Piece, player_piece_mask]

theorem convert_piece_to_letter_eq (p : Piece) (g : Bool) : convert_piece_to_letter p g = [pieceToLetter p g] := by
  cases p <;> cases g <;> simp [convert_piece_to_letter, pieceToLetter, pieceUpperLetter]

/-- `n - 0`: what is left of the translated range `(0, n).2 - (0, n).1` -/
theorem forM_range_append (n : Nat) (g : Nat → List Char) (F : List Char → Nat → Res (List Char))
    (hF : ∀ st a, a < n → F st a = .ok (st ++ g a)) (init : List Char) :
    Rt.forM (List.range' 0 (n - 0)) init F = .ok (init ++ (List.range n).flatMap g) := by
  rw [Nat.sub_zero, ← List.range_eq_range',
    Rt.forM_ok _ init F (fun st a => st ++ g a) (fun st a ha => hF st a (List.mem_range.mp ha)), foldl_append_flatMap]

theorem game_state_fmt (s : GameState) (f : List Char) : GameState_fmt s f = .ok (f ++ showState s) := by
  unfold GameState_fmt
  dsimp only
  rw [forM_range_append BOARD_HEIGHT (showRow s.board)]
  case hF =>
    intro st row hr
    rw [subUsize_ok (Nat.le_of_lt hr), Res.bind_ok,
      forM_range_append BOARD_WIDTH (fun col => [' ', cellChar s.board (row * BOARD_WIDTH + col)])]
    case hF =>
      -- one cell: the index is below 64, so neither `piece_type_at_square` nor `as_bit_board` panics
      intro st col hc
      have hidx : row * BOARD_WIDTH + col < 64 := by unfold BOARD_WIDTH BOARD_HEIGHT at *; omega
      have hp : sqBitPanics (row * BOARD_WIDTH + col) = false := decide_eq_false (by omega)
      rw [mulUsize_ok (by omega), Res.bind_ok, addUsize_ok (by omega), Res.bind_ok, Nat.mod_eq_of_lt (by omega)]
      simp only [game_state_piece_board, piece_type_at_square, asBitBoard_eq, Board.pieceTypeAtSquarePanics, hp,
        Res.guard_false, Res.bind_ok, cellChar]
      cases s.board.pieceTypeAtSquare (row * BOARD_WIDTH + col) with
      | some p => simp [convert_piece_to_letter_eq, is_p1_piece_eq]
      | none =>
        generalize row * BOARD_WIDTH + col = idx
        simp only [Res.bind_ok, displayTrapIdx, List.contains_cons, List.contains_nil, Bool.or_false, Bool.or_assoc]
        cases (idx == 18 || (idx == 21 || (idx == 42 || idx == 45))) <;> simp
    simp [showRow, natDigits]
  -- the string literals are only ever split at their last character, by `simp`'s evaluation of `++` on literals
  -- (unfolding `String.toList` on a literal is slow)
  have hb : border = " +-----------------+".toList ++ ['\n'] := by
    unfold border
    rw [show " +-----------------+\n" = " +-----------------+" ++ "\n" by simp, String.toList_append]
    rfl
  have hf : "   a b c d e f g h\n".toList = "   a b c d e f g h".toList ++ ['\n'] := by
    rw [show "   a b c d e f g h\n" = "   a b c d e f g h" ++ "\n" by simp, String.toList_append]
    rfl
  have hs : (bif s.p1Turn then "g".toList else "s".toList) = [if s.p1Turn then 'g' else 's'] := by
    cases s.p1Turn <;> rfl
  rw [Res.bind_ok, showState, hb, hf, move_number, is_p1_turn_to_move, hs]
  simp only [List.append_assoc, natDigits, List.cons_append, List.nil_append]

end Arimaa.RsAgree

namespace Arimaa.Code
open Arimaa.Gen.Rs Arimaa.Gen.Bridge

theorem fmt (s : GameState) (f : List Char) :
    GameState_fmt s f = .ok (f ++ showState s) :=
  bridge_GameState_fmt ▸ RsAgree.game_state_fmt s f

end Arimaa.Code
