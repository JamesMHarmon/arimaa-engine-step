import Arimaa.Lemmas.RsAgreeList

/-!
`C19_code_no_panic` (Props/C19r.lean) covers the regenerated functions of `engine.rs` with the history as a Lean list.
The container itself (`linked_list.rs`, regenerated on every run, `Gen/RsList.lean`) has exactly one panic site: the
checked `len() + 1` in `append`.  It is reached only by a list of `usize::MAX` entries; every other function of the
file is total.  The struct layout the translation assumes — the cached length is a `usize` — is checked by the
translator (a narrower counter is a broken tie, not a silent mis-translation).
-/

namespace Arimaa.Props
open Arimaa.Rt Arimaa.Gen.RsList Arimaa.RsAgree.ListAgree

/-- **C19, code level (container).**  Recording one more position never panics on a history of fewer than
`usize::MAX` entries, and the result is again a list of that kind. -/
theorem C19_code_history_append_no_panic {T : Type} {l : Link T} (h : Built l) (x : T)
    (hb : (toList l).length < usizeMax) : ∃ l', List_append l x = .ok l' ∧ Built l' := by
  obtain ⟨l', h1, _, h3⟩ := built_append h x (by omega)
  exact ⟨l', h1, h3⟩

/-- 2^16 turns without a capture are far inside the bound (the counter is a `usize`, not a narrower integer) -/
example : (70000 : Nat) < usizeMax := by simp [usizeMax]

end Arimaa.Props
