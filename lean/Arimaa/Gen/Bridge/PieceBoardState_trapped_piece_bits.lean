-- GENERATED by /verif/tools/gen.py -- do not edit.  Bridge from the current text of `PieceBoardState::trapped_piece_bits` to the baseline text.
import Arimaa.Gen.Rs
import Arimaa.Gen.RsBase
import Arimaa.Gen.BridgeLadder
import Arimaa.Gen.Bridge.animal_is_on_trap
import Arimaa.Gen.Bridge.both_player_unsupported_piece_bits

namespace Arimaa.Gen.Bridge
open Arimaa Arimaa.Gen Arimaa.Rt

set_option maxHeartbeats 1000000 in
theorem bridge_PieceBoardState_trapped_piece_bits : @Rs.PieceBoardState_trapped_piece_bits = @RsBase.PieceBoardState_trapped_piece_bits := by
  funext a0
  rs_ladder [Rs.PieceBoardState_trapped_piece_bits, RsBase.PieceBoardState_trapped_piece_bits, bridge_animal_is_on_trap, bridge_both_player_unsupported_piece_bits] [RsBase.animal_is_on_trap, RsBase.both_player_unsupported_piece_bits] (skip) [Rs.PieceBoardState_trapped_piece_bits, RsBase.PieceBoardState_trapped_piece_bits, Rs.animal_is_on_trap, Rs.both_player_supported_pieces, Rs.both_player_unsupported_piece_bits, Rs.supported_pieces, RsBase.animal_is_on_trap, RsBase.both_player_supported_pieces, RsBase.both_player_unsupported_piece_bits, RsBase.supported_pieces]

end Arimaa.Gen.Bridge
