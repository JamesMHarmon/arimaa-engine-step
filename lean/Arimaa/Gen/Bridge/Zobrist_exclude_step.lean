-- GENERATED by /verif/tools/gen.py -- do not edit.  Bridge from the current text of `Zobrist::exclude_step` to the baseline text.
import Arimaa.Gen.Rs
import Arimaa.Gen.RsBase
import Arimaa.Gen.BridgeLadder

namespace Arimaa.Gen.Bridge
open Arimaa Arimaa.Gen Arimaa.Rt

set_option maxHeartbeats 1000000 in
theorem bridge_Zobrist_exclude_step : @Rs.Zobrist_exclude_step = @RsBase.Zobrist_exclude_step := by
  funext a0 a1
  rs_ladder [Rs.Zobrist_exclude_step, RsBase.Zobrist_exclude_step] [] (skip) [Rs.Zobrist_exclude_step, RsBase.Zobrist_exclude_step]

end Arimaa.Gen.Bridge
