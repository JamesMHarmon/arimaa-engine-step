-- GENERATED by /verif/tools/gen.py -- do not edit.  Bridge from the current text of `GameState::move_can_be_counted_as_pull` to the baseline text.
import Arimaa.Gen.Rs
import Arimaa.Gen.RsBase
import Arimaa.Gen.BridgeLadder
import Arimaa.Gen.Bridge.GameState_unwrap_play_phase
import Arimaa.Gen.Bridge.piece_type_at_bit
import Arimaa.Gen.Bridge.shift_in_direction

namespace Arimaa.Gen.Bridge
open Arimaa Arimaa.Gen Arimaa.Rt

set_option maxHeartbeats 1000000 in
theorem bridge_GameState_move_can_be_counted_as_pull : @Rs.GameState_move_can_be_counted_as_pull = @RsBase.GameState_move_can_be_counted_as_pull := by
  funext a0 a1 a2 a3
  rs_ladder [Rs.GameState_move_can_be_counted_as_pull, RsBase.GameState_move_can_be_counted_as_pull, bridge_GameState_unwrap_play_phase, bridge_piece_type_at_bit, bridge_shift_in_direction] [RsBase.GameState_unwrap_play_phase, RsBase.piece_type_at_bit, RsBase.shift_in_direction] (cases a2) [Rs.GameState_move_can_be_counted_as_pull, RsBase.GameState_move_can_be_counted_as_pull, Rs.GameState_as_play_phase, Rs.GameState_unwrap_play_phase, Rs.piece_type_at_bit, Rs.shift_in_direction, RsBase.GameState_as_play_phase, RsBase.GameState_unwrap_play_phase, RsBase.piece_type_at_bit, RsBase.shift_in_direction]

end Arimaa.Gen.Bridge
