import Arimaa.Gen.BridgeEval
import Arimaa.Gen.BridgeAttr

/-!
The tactic ladder of the generated bridge modules `Gen/Bridge/<fn>.lean` (`@Rs.f = @RsBase.f`), written once.

A bridge is one call of `rs_ladder`: `first` over the rungs below, cheap rungs of every kind before expensive ones.
Every rung is an `rs_rung` (a heartbeat budget of its own, a timeout is an ordinary failure) and either closes the
goal or fails, so a rung that merely makes progress never wins.  A rung's budget is 100000 heartbeats, counted from
its own start.  The `maxHeartbeats 1000000` in every generated module bounds what ALL rungs tried have used together,
counted from the start of the theorem and checked between rungs: it is less than the sum of the budgets (15 rungs in
the short ladder, 29 in the long one), so a ladder whose failing rungs have used a million ends there with a heartbeat
error, which fails the bridge as "no rung closed" does.  The arguments are `simp only` sets that
`tools/gen.py` computes from the call graphs of the two texts, each written once:

* `L` : both texts of the function, the helpers without a bridge of their own (new, vanished or re-typed), and
  the bridges of its callees;
* `O` : the baseline texts of the direct callees (opened one level after their bridges have been applied);
* `D` : every function reachable on either side, down to the externs (present only when the two sides together
  reach at most 24: the second form of `rs_ladder`), together with `cs`, the case analysis on the arguments of enum
  or Boolean type.

On the unchanged tree the first rung closes every bridge: once the callees are rewritten the two bodies are equal,
literally or, where the text has a `match` (each definition has a matcher constant of its own), by `rfl`.  The later
rungs decide how hard Lean tries on a changed source (DESIGN.md III.3, III.6).  Every accepted bridge is a
kernel-checked equality.
-/
namespace Arimaa.Gen.Bridge
open Arimaa Arimaa.Gen Arimaa.Rt

attribute [rs_norm] Res.bind_assoc Res.bind_ok Res.bind_panic Res.bind_ok_right BitVec.xor_assoc BitVec.and_assoc
  BitVec.or_assoc Bool.and_assoc Bool.or_assoc List.append_assoc List.nil_append List.append_nil

attribute [rs_ac] BitVec.xor_comm bv_xor_left_comm BitVec.and_comm bv_and_left_comm BitVec.or_comm bv_or_left_comm
  Bool.and_comm Bool.and_left_comm Bool.or_comm Bool.or_left_comm

/-- symbolic evaluation (`rs_bridge_eval`) after the functions of `X` have been opened as well; loops stay opaque
calls.  A function without callees has `X = []`: the rung is left out. -/
macro "rs_rung_eval_open " "[" L:Lean.Parser.Tactic.simpLemma,* "]" "[" X:Lean.Parser.Tactic.simpLemma,* "]" : tactic =>
  `(tactic| rs_rung (simp only [$L,*]; (try simp only [$X,*]); rs_bridge_eval))

/-- case analysis `cs` on the arguments of enum or Boolean type, then the variant tables evaluated.  `cs = skip` says
there is no such argument: the rung is left out. -/
macro "rs_rung_enum " "(" cs:tactic ")" "[" D:Lean.Parser.Tactic.simpLemma,* "]" : tactic => `(tactic|
  rs_rung ($cs <;> simp only [$D,*] <;> first | rfl | rs_bridge_cases |
    (simp +decide [Piece_ALL, Dir_ALL, Piece.lt, Piece.idx, List.takeWhile, List.foldl]; done)))

macro_rules
  | `(tactic| rs_rung_eval_open [$_,*] []) => `(tactic| fail)
  | `(tactic| rs_rung_enum (skip) [$_,*]) => `(tactic| fail)

syntax "rs_ladder " "[" Lean.Parser.Tactic.simpLemma,* "]" "[" Lean.Parser.Tactic.simpLemma,* "]" : tactic
syntax "rs_ladder " "[" Lean.Parser.Tactic.simpLemma,* "]" "[" Lean.Parser.Tactic.simpLemma,* "]" "(" tactic ")"
  "[" Lean.Parser.Tactic.simpLemma,* "]" : tactic

macro_rules
  | `(tactic| rs_ladder [$L,*] [$O,*]) => `(tactic| first
    -- the callees rewritten by their bridges: literal equality or `rfl`; case analysis; normal forms (monad laws,
    -- associativity, the two loop forms, commutativity); data facts
    | rs_rung (simp only [$L,*] <;> rfl)
    | rs_rung rfl
    | rs_rung (simp only [$L,*]; rs_bridge_cases)
    | rs_rung (simp only [$L,*, rs_norm]; done)
    | rs_rung (simp only [$L,*, rs_norm]; rs_bridge_cases)
    | rs_rung (simp only [$L,*, rs_norm, Rt.anyM_eq_findRet, Rt.allM_eq_findRet, Bool.not_not, Bool.cond_not]; rfl)
    | rs_rung (simp only [$L,*, rs_norm, rs_ac]; done)
    | rs_rung (simp only [$L,*, List.foldl, List.foldr, popcount_blt_one]; rs_bridge_cases)
    -- every `Res.bind` opened into a `match`: the same fallible sub-computations in another order or nesting
    | rs_rung (simp only [$L,*]; rs_bridge_split)
    | rs_rung (simp only [$L,*]; rs_bridge_hsplit)
    -- symbolic evaluation over the outcomes of the fallible calls, then with the direct callees opened one level
    | rs_rung (simp only [$L,*]; rs_bridge_eval)
    | rs_rung_eval_open [$L,*] [$O,*]
    -- the default `simp` set, then `grind` (also with `usize` comparisons as propositions)
    | rs_rung (simp [$L,*]; done)
    | rs_rung (simp only [$L,*]; grind)
    | rs_rung (simp only [$L,*, nat_ble_eq_decide, nat_blt_eq_decide]; grind))
  | `(tactic| rs_ladder [$L,*] [$O,*] ($cs) [$D,*]) => `(tactic| first
    -- the callees rewritten by their bridges: literal equality or `rfl`; case analysis; normal forms (monad laws,
    -- associativity, the two loop forms, commutativity); data facts
    | rs_rung (simp only [$L,*] <;> rfl)
    | rs_rung rfl
    | rs_rung (simp only [$L,*]; rs_bridge_cases)
    | rs_rung (simp only [$L,*, rs_norm]; done)
    | rs_rung (simp only [$L,*, rs_norm]; rs_bridge_cases)
    | rs_rung (simp only [$L,*, rs_norm, Rt.anyM_eq_findRet, Rt.allM_eq_findRet, Bool.not_not, Bool.cond_not]; rfl)
    | rs_rung (simp only [$L,*, rs_norm, rs_ac]; done)
    | rs_rung (simp only [$L,*, List.foldl, List.foldr, popcount_blt_one]; rs_bridge_cases)
    -- the same with everything unfolded, plus the bit-by-bit comparison of bitboard algebra; enum arguments
    | rs_rung (simp only [$D,*]; done)
    | rs_rung (simp only [$D,*]; rs_bridge_cases)
    | rs_rung (simp only [$D,*, List.foldl, List.foldr, popcount_blt_one]; rs_bridge_cases)
    | rs_rung (simp only [$D,*]; rs_bridge_bits)
    | rs_rung (simp only [$D,*, rs_norm]; done)
    | rs_rung (simp only [$D,*, rs_norm]; rs_bridge_cases)
    | rs_rung (simp only [$D,*, rs_norm, rs_ac]; done)
    | rs_rung_enum ($cs) [$D,*]
    -- every `Res.bind` opened into a `match`: the same fallible sub-computations in another order or nesting; with
    -- everything unfolded; with the callees bridged first (their texts may differ) and the rest unfolded afterwards
    | rs_rung (simp only [$L,*]; rs_bridge_split)
    | rs_rung (simp only [$L,*]; rs_bridge_hsplit)
    | rs_rung (simp only [$D,*]; rs_bridge_split)
    | rs_rung (simp only [$D,*]; rs_bridge_hsplit)
    | rs_rung (simp only [$L,*]; (try simp only [$D,*]); rs_bridge_cases)
    | rs_rung (simp only [$L,*]; (try simp only [$D,*]); rs_bridge_hsplit)
    -- symbolic evaluation over the outcomes of the fallible calls; with the direct callees opened one level; with
    -- everything opened
    | rs_rung (simp only [$L,*]; rs_bridge_eval)
    | rs_rung_eval_open [$L,*] [$O,*]
    | rs_rung_eval_open [$L,*] [$D,*]
    -- the default `simp` set, then `grind` (also with `usize` comparisons as propositions)
    | rs_rung (simp [$L,*]; done)
    | rs_rung (simp only [$L,*]; grind)
    | rs_rung (simp only [$L,*, nat_ble_eq_decide, nat_blt_eq_decide]; grind)
    | rs_rung (simp [$D,*]; done))

end Arimaa.Gen.Bridge
