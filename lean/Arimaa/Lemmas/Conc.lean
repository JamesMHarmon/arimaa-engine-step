import Arimaa.Impl.Conc

/-! A step of thread `u` in the thread/heap model `Impl/Conc.lean` (property C18 b) writes only to thread `u`, to counts
and, when it allocates, to the arena of `u`.  So it leaves every other thread's local state and view alone, and is
for `u` itself at most one instruction of the reference semantics, in which no count and no other thread exists. -/

namespace Arimaa.Conc

theorem lookup_mem {k : Nat} {id : NodeId} {l : List (Nat × NodeId)} (h : l.lookup k = some id) : (k, id) ∈ l := by
  induction l with
  | nil => cases h
  | cons p l ih =>
    rw [List.lookup_cons] at h
    split at h
    · next hk => cases h; rw [eq_of_beq hk]; exact List.mem_cons_self
    · exact List.mem_cons_of_mem _ (ih h)

theorem forall_threads_set {P : Thread → Prop} {ths : List Thread} {x : Thread}
    (hold : ∀ (t : Nat) (th : Thread), ths[t]? = some th → P th) (hx : P x) (u : Nat) :
    ∀ (t : Nat) (th : Thread), (ths.set u x)[t]? = some th → P th := by
  intro t th hth
  rcases List.mem_or_eq_of_mem_set (List.mem_of_getElem? hth) with hm | rfl
  · obtain ⟨i, hi⟩ := List.getElem?_of_mem hm
    exact hold i th hi
  · exact hx

theorem upd_self {β : Type} (f : NodeId → β) (a : NodeId) (b : β) : upd f a b a = b := if_pos rfl

theorem upd_ne {β : Type} {f : NodeId → β} {a : NodeId} {b : β} {x : NodeId} (h : x ≠ a) : upd f a b x = f x :=
  if_neg h

theorem addOwner_self (arcs : NodeId → Meta) (j : NodeId) (tok : Owner) :
    addOwner arcs j tok j = { arcs j with owners := tok :: (arcs j).owners } := upd_self _ _ _

theorem addOwner_ne {arcs : NodeId → Meta} {j : NodeId} {tok : Owner} {x : NodeId} (h : x ≠ j) :
    addOwner arcs j tok x = arcs x := upd_ne h

theorem upd_owners_freed (arcs : NodeId → Meta) (id : NodeId) (os : List Owner) (x : NodeId) :
    (upd arcs id { arcs id with owners := os } x).freed = (arcs x).freed := by
  by_cases hx : x = id
  · rw [hx, upd_self]
  · rw [upd_ne hx]

theorem upd_freed_owners (arcs : NodeId → Meta) (id : NodeId) (b : Bool) (x : NodeId) :
    (upd arcs id { arcs id with freed := b } x).owners = (arcs x).owners := by
  by_cases hx : x = id
  · rw [hx, upd_self]
  · rw [upd_ne hx]

theorem addOwner_freed (arcs : NodeId → Meta) (j : NodeId) (tok : Owner) (x : NodeId) :
    (addOwner arcs j tok x).freed = (arcs x).freed := upd_owners_freed arcs j _ x

theorem addOwner_upd {arcs : NodeId → Meta} {n j : NodeId} {m : Meta} {tok : Owner} (h : j ≠ n) :
    addOwner (upd arcs n m) j tok = upd (addOwner arcs j tok) n m := by
  funext x
  simp only [addOwner, upd_ne h]
  by_cases hx : x = n
  · rw [hx, upd_self, upd_ne (Ne.symm h), upd_self]
  · by_cases hxj : x = j
    · rw [hxj, upd_self, upd_ne h, upd_self]
    · rw [upd_ne hxj, upd_ne hx, upd_ne hx, upd_ne hxj]

theorem instr_spec {t : Nat} {roots : List NodeId} {V : View} {L L' : Local} {eff : Effect} :
    instr t roots V L = (L', eff) →
    match eff with
    | .none => L'.table = L.table ∧ L'.ctr = L.ctr ∧ L'.actr = L.actr
    | .addOwner id tok => (∃ r, resolve V roots L.table r = some id) ∧ tok = .handle t L.ctr ∧
        L'.table = (L.ctr, id) :: L.table ∧ L'.ctr = L.ctr + 1 ∧ L'.actr = L.actr
    | .alloc newid f tok => newid = ⟨t + 1, L.actr⟩ ∧ tok = .handle t L.ctr ∧
        L'.table = (L.ctr, newid) :: L.table ∧ L'.ctr = L.ctr + 1 ∧ L'.actr = L.actr + 1 ∧
        ∀ j, f.next = some j → ∃ r, resolve V roots L.table r = some j
    | .release id tok => ∃ key, tok = .handle t key ∧ (key, id) ∈ L.table ∧
        L'.table = L.table.filter (fun p => p.1 != key) ∧ L'.ctr = L.ctr ∧ L'.actr = L.actr := by
  fun_cases instr t roots V L <;> intro h <;> cases h
  · exact ⟨rfl, rfl, rfl⟩
  · exact ⟨rfl, rfl, rfl⟩
  · exact ⟨rfl, rfl, rfl⟩
  · exact ⟨⟨_, ‹_›⟩, rfl, rfl, rfl, rfl⟩
  · exact ⟨rfl, rfl, rfl⟩
  · refine ⟨rfl, rfl, rfl, rfl, rfl, fun j hj => ?_⟩
    obtain ⟨r, _, hr⟩ := Option.bind_eq_some_iff.1 hj
    exact ⟨r, hr⟩
  · exact ⟨_, rfl, lookup_mem ‹_›, rfl, rfl, rfl⟩
  · exact ⟨rfl, rfl, rfl⟩

theorem instr_pc (t : Nat) (roots : List NodeId) (V : View) (L : Local) :
    (instr t roots V L).1.pc = L.pc + 1 ∨ instr t roots V L = (L, .none) := by
  fun_cases instr t roots V L
  · exact .inr rfl
  all_goals exact .inl rfl

theorem step_oob {s : State} {u : Nat} (hu : s.threads[u]? = none) : step s u = s := by
  unfold step; rw [hu]

theorem step_dec {s : State} {u : Nat} {th : Thread} {id : NodeId} {tok : Owner}
    (hu : s.threads[u]? = some th) (hr : th.rel = .dec id tok) :
    step s u = { s with
      arcs := upd s.arcs id { s.arcs id with owners := (s.arcs id).owners.erase tok },
      threads := s.threads.set u { th with rel :=
        if tok ∈ (s.arcs id).owners ∧ (s.arcs id).owners.erase tok = [] then .free id else .idle } } := by
  unfold step; rw [hu]; simp only [hr]

/-! Proofs about `step s u` go through its seven cases with `fun_cases step s u`: no thread `u`; `u` decrements;
`u` frees; an instruction of `u` with effect `none`, `addOwner`, `alloc`, `release`. -/

theorem step_roots (s : State) (u : Nat) : (step s u).roots = s.roots := by
  fun_cases step s u <;> rfl

theorem step_threads_ne (s : State) {u t : Nat} (h : u ≠ t) : (step s u).threads[t]? = s.threads[t]? := by
  fun_cases step s u
  · rfl
  all_goals exact List.getElem?_set_ne h

theorem step_fields_other (s : State) (u : Nat) (id : NodeId) (h : id.arena ≠ u + 1) :
    (step s u).fields id = s.fields id := by
  fun_cases step s u
  case case6 hI _ => exact upd_ne fun e => h (e ▸ (instr_spec hI).1 ▸ rfl)
  all_goals rfl

theorem step_freed {s : State} {u : Nat} {id : NodeId} (h1 : ((step s u).arcs id).freed = true) :
    (s.arcs id).freed = true ∨ ∃ th, s.threads[u]? = some th ∧ th.rel = .free id := by
  revert h1
  fun_cases step s u with
  | case1 => exact .inl
  | case2 th hu j tok hrel => exact fun h1 => .inl ((upd_owners_freed s.arcs j _ id).symm.trans h1)
  | case3 th hu p hrel =>
    intro h1
    by_cases hx : id = p
    · exact .inr ⟨th, hu, hx ▸ hrel⟩
    · exact .inl ((congrArg Meta.freed (upd_ne hx)).symm.trans h1)
  | case4 => exact .inl
  | case5 th hu hrel L j tok hI => exact fun h1 => .inl ((addOwner_freed s.arcs j tok id).symm.trans h1)
  | case6 th hu hrel L newid f tok hI =>
    intro h1
    have h2 : (upd s.arcs newid { owners := [tok], freed := false } id).freed = true := by
      cases hn : f.next with
      | none => simpa only [hn] using h1
      | some j => simp only [hn, addOwner_freed] at h1; exact h1
    by_cases hx : id = newid
    · rw [hx, upd_self] at h2; cases h2
    · exact .inl ((congrArg Meta.freed (upd_ne hx)).symm.trans h2)
  | case7 => exact .inl

theorem run_induction {P : State → Prop} (hstep : ∀ s u, P s → P (step s u)) (sched : List Nat) :
    ∀ s, P s → P (run s sched) := by
  induction sched with
  | nil => exact fun _ h => h
  | cons u us ih => exact fun s h => ih _ (hstep s u h)

theorem run_fields_arena0 (sched : List Nat) (s : State) (id : NodeId) (h0 : id.arena = 0) :
    (run s sched).fields id = s.fields id :=
  run_induction (P := fun s' => s'.fields id = s.fields id)
    (fun s' u h => (step_fields_other s' u id (by omega)).trans h) sched s rfl

theorem inView_own {t : Nat} {id : NodeId} (h : id.arena = t + 1) : inView t id = true := by
  simp [inView, h]

theorem view_upd_own (t : Nat) (fields : NodeId → Option Fields) (id : NodeId) (v : Option Fields)
    (h : inView t id = true) : view t (upd fields id v) = upd (view t fields) id v := by
  funext x
  simp only [view, upd]
  by_cases hx : x = id
  · subst hx; simp [h]
  · simp [hx]

theorem step_view_ne (s : State) {u t : Nat} (h : u ≠ t) : view t (step s u).fields = view t s.fields := by
  funext x
  simp only [view]
  split
  · next hv =>
    rw [step_fields_other]
    simp only [inView, Bool.or_eq_true, beq_iff_eq] at hv
    omega
  · rfl

theorem step_length (s : State) (u : Nat) : (step s u).threads.length = s.threads.length := by
  fun_cases step s u
  · rfl
  all_goals exact List.length_set

theorem run_thread {t : Nat} {th : Thread} (sched : List Nat) (s : State) (ht : s.threads[t]? = some th) :
    ∃ a, (run s sched).threads[t]? = some a := by
  have hlen := run_induction (P := fun s' => s'.threads.length = s.threads.length)
    (fun s' u h => (step_length s' u).trans h) sched s rfl
  exact ⟨_, List.getElem?_eq_getElem (hlen ▸ (List.getElem?_eq_some_iff.1 ht).1)⟩

theorem step_obs (s : State) (u t : Nat) {th th' : Thread} (ht : s.threads[t]? = some th)
    (ht' : (step s u).threads[t]? = some th') :
    (view t (step s u).fields, th'.loc) = (view t s.fields, th.loc) ∨
    (view t (step s u).fields, th'.loc) = refStep t s.roots (view t s.fields, th.loc) := by
  by_cases hut : u = t
  · subst hut
    have hset : ∀ {x : Thread}, (s.threads.set u x)[u]? = some th' → x = th' :=
      fun h => Option.some.inj ((List.getElem?_set_self (List.getElem?_eq_some_iff.1 ht).1).symm.trans h)
    revert ht'
    fun_cases step s u with
    | case1 hu => rw [hu] at ht; cases ht
    | case2 th1 hu => intro ht'; cases hu.symm.trans ht; cases hset ht'; exact .inl rfl
    | case3 th1 hu => intro ht'; cases hu.symm.trans ht; cases hset ht'; exact .inl rfl
    | case4 th1 hu _ L hI =>
      intro ht'; cases hu.symm.trans ht; cases hset ht'; exact .inr (by simp only [refStep, hI])
    | case5 th1 hu _ L id tok hI =>
      intro ht'; cases hu.symm.trans ht; cases hset ht'; exact .inr (by simp only [refStep, hI])
    | case6 th1 hu _ L newid f tok hI =>
      intro ht'; cases hu.symm.trans ht; cases hset ht'
      refine .inr ?_
      simp only [refStep, hI]
      rw [view_upd_own u s.fields _ _ (inView_own ((instr_spec hI).1 ▸ rfl))]
    | case7 th1 hu _ L id tok hI =>
      intro ht'; cases hu.symm.trans ht; cases hset ht'; exact .inr (by simp only [refStep, hI])
  · cases ((step_threads_ne s hut).symm.trans ht').symm.trans ht
    exact .inl (by rw [step_view_ne s hut])

theorem run_obs (t : Nat) (sched : List Nat) : ∀ (s : State) {th a : Thread}, s.threads[t]? = some th →
    (run s sched).threads[t]? = some a →
    ∃ n, (view t (run s sched).fields, a.loc) = refRun t s.roots n (view t s.fields, th.loc) := by
  induction sched with
  | nil => intro s th a ht ha; cases ht.symm.trans ha; exact ⟨0, rfl⟩
  | cons u us ih =>
    intro s th a ht ha
    obtain ⟨th1, ht1⟩ : ∃ th1, (step s u).threads[t]? = some th1 := run_thread [u] s ht
    obtain ⟨n, hx⟩ := ih (step s u) ht1 ha
    rw [step_roots] at hx
    -- `refRun` takes its first step first
    rcases step_obs s u t ht ht1 with h | h
    · exact ⟨n, hx.trans (by rw [h])⟩
    · exact ⟨n + 1, hx.trans (by rw [h]; rfl)⟩

theorem refStep_pc (t : Nat) (roots : List NodeId) (x : View × Local) :
    (refStep t roots x).2.pc = x.2.pc + 1 ∨ refStep t roots x = x := by
  unfold refStep
  rcases instr_pc t roots x.1 x.2 with h | h
  · left
    cases hI : instr t roots x.1 x.2 with
    | mk L eff => rw [hI] at h; cases eff <;> exact h
  · right; rw [h]

theorem refRun_add (t : Nat) (roots : List NodeId) (a b : Nat) (x : View × Local) :
    refRun t roots (a + b) x = refRun t roots b (refRun t roots a x) := by
  induction a generalizing x with
  | zero => rw [Nat.zero_add]; rfl
  | succ a ih => rw [Nat.succ_add]; exact ih _

theorem refRun_pc (t : Nat) (roots : List NodeId) (d : Nat) (x : View × Local) :
    x.2.pc ≤ (refRun t roots d x).2.pc ∧ ((refRun t roots d x).2.pc = x.2.pc → refRun t roots d x = x) := by
  induction d generalizing x with
  | zero => exact ⟨Nat.le_refl _, fun _ => rfl⟩
  | succ d ih =>
    obtain ⟨h1, h2⟩ := ih (refStep t roots x)
    rw [refRun]
    rcases refStep_pc t roots x with h | h
    · exact ⟨by omega, fun e => by omega⟩
    · rw [h] at h1 h2 ⊢; exact ⟨h1, h2⟩

theorem refRun_pc_inj (t : Nat) (roots : List NodeId) (n m : Nat) (x : View × Local)
    (h : (refRun t roots n x).2.pc = (refRun t roots m x).2.pc) : refRun t roots n x = refRun t roots m x := by
  rcases Nat.le_total n m with hnm | hnm <;> obtain ⟨d, rfl⟩ := Nat.exists_eq_add_of_le hnm <;>
    rw [refRun_add] at h ⊢
  · exact ((refRun_pc t roots d _).2 h.symm).symm
  · exact (refRun_pc t roots d _).2 h

theorem run_loc_of_pc (s : State) (t : Nat) {th0 a b : Thread} (h0 : s.threads[t]? = some th0) (sched sched' : List Nat)
    (ha : (run s sched).threads[t]? = some a) (hb : (run s sched').threads[t]? = some b)
    (hpc : a.loc.pc = b.loc.pc) : a.loc = b.loc := by
  obtain ⟨n, hxa⟩ := run_obs t sched s h0 ha
  obtain ⟨m, hxb⟩ := run_obs t sched' s h0 hb
  have := refRun_pc_inj t s.roots n m (view t s.fields, th0.loc) (by rw [← hxa, ← hxb]; exact hpc)
  rw [← hxa, ← hxb] at this
  exact congrArg Prod.snd this

/-- `tok` is the reference that keeps `id` alive for ever: the root handle itself, or the `next` field of its
(root-reachable) predecessor -/
inductive RootReach (s0 : State) : NodeId → Owner → Prop where
  | head (i : Nat) (id : NodeId) : s0.roots[i]? = some id → id.arena = 0 → RootReach s0 id (.root i)
  | next (p : NodeId) (tokp : Owner) (f : Fields) (j : NodeId) :
      RootReach s0 p tokp → s0.fields p = some f → f.next = some j → j.arena = 0 → RootReach s0 j (.node p)

theorem RootReach.arena0 {s0 : State} {id : NodeId} {tok : Owner} (h : RootReach s0 id tok) : id.arena = 0 := by
  cases h <;> assumption

/-- a thread in the middle of a release is not about to give up a permanent reference of a root-reachable
node, nor to free such a node -/
def RelOk (s0 : State) : Rel → Prop
  | .dec _ tok => ∀ id tk, RootReach s0 id tk → tok ≠ tk
  | .free id => ∀ tk, ¬ RootReach s0 id tk
  | .idle => True

/-- The count invariant restricted to root-reachable nodes.  It is inductive by itself and asks nothing of the threads'
tables, of the arenas or of the other nodes, so `C18_roots_never_freed` needs far less of the initial state than the
results that rest on the full invariant `Inv` of `Lemmas/ConcCount.lean`: `WellFormed s` implies `RootsSafe s s`
(`WellFormed.rootsSafe`), not conversely. -/
structure RootsSafe (s0 s : State) : Prop where
  alive : ∀ id tok, RootReach s0 id tok → tok ∈ (s.arcs id).owners ∧ (s.arcs id).freed = false
  rels : ∀ (t : Nat) (th : Thread), s.threads[t]? = some th → RelOk s0 th.rel

theorem rootsAlive_upd {s0 : State} {arcs : NodeId → Meta} {j : NodeId} {m : Meta}
    (h : ∀ id tk, RootReach s0 id tk → tk ∈ (arcs id).owners ∧ (arcs id).freed = false)
    (hj : ∀ tk, RootReach s0 j tk → tk ∈ m.owners ∧ m.freed = false) :
    ∀ id tk, RootReach s0 id tk → tk ∈ (upd arcs j m id).owners ∧ (upd arcs j m id).freed = false := by
  intro id tk hr
  by_cases hid : id = j
  · subst hid; rw [upd_self]; exact hj tk hr
  · rw [upd_ne hid]; exact h id tk hr

theorem rootsAlive_addOwner {s0 : State} {arcs : NodeId → Meta} (j : NodeId) (tok : Owner)
    (h : ∀ id tk, RootReach s0 id tk → tk ∈ (arcs id).owners ∧ (arcs id).freed = false) :
    ∀ id tk, RootReach s0 id tk → tk ∈ (addOwner arcs j tok id).owners ∧ (addOwner arcs j tok id).freed = false :=
  rootsAlive_upd h fun tk hr => ⟨List.mem_cons_of_mem _ (h j tk hr).1, (h j tk hr).2⟩

theorem rootsSafe_step (s0 s : State) (u : Nat) (hs : RootsSafe s0 s) : RootsSafe s0 (step s u) := by
  fun_cases step s u with
  | case1 => exact hs
  | case2 th hu id tok hrel =>
    have hrelu : RelOk s0 (.dec id tok) := hrel ▸ hs.rels u th hu
    -- the token given up is not a permanent one, so the permanent owners of `id` stay
    have hkeep : ∀ tk, RootReach s0 id tk → tk ∈ (s.arcs id).owners.erase tok ∧ (s.arcs id).freed = false :=
      fun tk hr => ⟨(List.mem_erase_of_ne (hrelu id tk hr).symm).2 (hs.alive id tk hr).1, (hs.alive id tk hr).2⟩
    refine ⟨rootsAlive_upd hs.alive hkeep, forall_threads_set hs.rels ?_ u⟩
    dsimp only
    split
    · next hlast =>
      intro tk hr
      have hnil : (s.arcs id).owners.erase tok = [] := hlast.2
      have := (hkeep tk hr).1
      rw [hnil] at this; cases this
    · trivial
  | case3 th hu id hrel =>
    have hrelu : RelOk s0 (.free id) := hrel ▸ hs.rels u th hu
    refine ⟨rootsAlive_upd hs.alive fun tk hr => absurd hr (hrelu tk), forall_threads_set hs.rels ?_ u⟩
    dsimp only
    split
    · intro id' tk hr heq
      subst heq
      cases hr with
      | next p tokp f j hp => exact hrelu tokp hp
    · trivial
  | case4 th hu =>
    refine ⟨hs.alive, forall_threads_set hs.rels ?_ u⟩
    exact hs.rels u th hu
  | case5 th hu _ _ id tok =>
    refine ⟨rootsAlive_addOwner id tok hs.alive, forall_threads_set hs.rels ?_ u⟩
    exact hs.rels u th hu
  | case6 th hu _ _ newid f tok hI =>
    -- the new node is not in arena 0
    have h1 := rootsAlive_upd (j := newid) (m := { owners := [tok], freed := false }) hs.alive fun tk hr => by
      have := hr.arena0
      rw [(instr_spec hI).1] at this; cases this
    refine ⟨?_, forall_threads_set hs.rels ?_ u⟩
    · dsimp only
      cases f.next with
      | some j => exact rootsAlive_addOwner _ _ h1
      | none => exact h1
    · exact hs.rels u th hu
  | case7 th hu _ _ id tok hI =>
    refine ⟨hs.alive, forall_threads_set hs.rels ?_ u⟩
    obtain ⟨key, rfl, _⟩ := instr_spec hI
    intro id' tk hr heq
    subst heq
    -- a dropped token is a `.handle`; `RootReach` only produces `.root` and `.node`
    cases hr

theorem rootsSafe_run (s0 : State) (sched : List Nat) : ∀ s, RootsSafe s0 s → RootsSafe s0 (run s sched) :=
  run_induction (rootsSafe_step s0) sched

end Arimaa.Conc
