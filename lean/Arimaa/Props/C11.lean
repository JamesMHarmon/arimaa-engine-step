import Arimaa.Lemmas.SymResult
import Arimaa.Lemmas.SymExample

/-!
# C11 — the rules are invariant under file mirroring and under colour swap with rank flip

Property text: mirroring a game (position and every action) across the vertical axis, or swapping
the colours while flipping the ranks, maps offered actions to offered actions, captures to captures
and results to the correspondingly swapped results at every step of the game, including which
actions the repetition rules withhold.

Proved here: the rules-level part on the specification `Arimaa.Spec.Rules`, and its transfer to the
implementation model for the rule-only list `validActionsNoRep`.  `σ` ranges over the three
symmetries `Spec.Sym.mirror` (file a ↔ h), `Spec.Sym.swap` (Gold ↔ Silver and rank r ↔ 9 - r) and
`Spec.Sym.both` (their composition).  The board action is `(σ b) (σ i) = σ (b i)`; `σ.sq` is the
identity on numbers that are not squares, hence boards need no side condition.  Squares of actions
are assumed to be on the board (`i < 64`), which is part of being offered.  All theorems hold for
arbitrary boards, not only legal positions.

The transfer is relational, no permutation of bits: two play-phase model states whose abstractions
are images of each other (`SymRel`) offer corresponding rule-only lists and step to states that are
again images of each other, because the symmetries are automorphisms of the machine `Spec.State`
(`C11_spec_step`), which the model simulates on both sides.  `PlayInv` (board well-formed, status
names an empty square, step ≤ 3) holds in every reachable play-phase state.

Not covered here: which actions the repetition rules withhold in the middle of a turn (and hence
`isTerminal` in the middle of a turn, which asks whether `validActions` is empty).  That clause
depends on position hashes and is false without a no-collision hypothesis (DESIGN.md section 6, F8);
under that hypothesis it is proved in `Props/C11b.lean`.
-/
namespace Arimaa
open Spec

/-- `mirror` keeps the rank (`i / 8`) and reflects the file (`i % 8`), `swap` keeps the file and
reflects the rank, and `both` is one after the other, in either order, on squares, directions and
colours. -/
theorem C11_both_is_composition (i : Nat) (d : Spec.Dir) (g : Bool) :
    (i < 64 → Sym.mirror.sq i / 8 = i / 8 ∧ Sym.mirror.sq i % 8 = 7 - i % 8) ∧
    (i < 64 → Sym.swap.sq i / 8 = 7 - i / 8 ∧ Sym.swap.sq i % 8 = i % 8) ∧
    Sym.both.sq i = Sym.mirror.sq (Sym.swap.sq i) ∧ Sym.both.sq i = Sym.swap.sq (Sym.mirror.sq i) ∧
    Sym.both.dir d = Sym.mirror.dir (Sym.swap.dir d) ∧ Sym.both.col g = Sym.mirror.col (Sym.swap.col g) ∧
    Sym.mirror.col g = g ∧ Sym.swap.col g = !g :=
  ⟨fun h => ⟨Sym.mirror.sq_div i h, Sym.mirror.sq_mod i h⟩, fun h => ⟨Sym.swap.sq_div i h, Sym.swap.sq_mod i h⟩,
    Sym.both_sq i, Sym.both_sq_rev i, Sym.both_dir d, Sym.both_col g, rfl, rfl⟩

/-- Every symmetry is an involution on squares, directions, colours, boards, obligations, results,
and maps the 64 squares to the 64 squares. -/
theorem C11_involution (σ : Sym) (i : Nat) (d : Spec.Dir) (g : Bool) (b : Spec.Board) (p : Pending)
    (r : Result) :
    σ.sq (σ.sq i) = i ∧ (σ.sq i < 64 ↔ i < 64) ∧ σ.dir (σ.dir d) = d ∧ σ.col (σ.col g) = g ∧
    σ.board (σ.board b) = b ∧ σ.pend (σ.pend p) = p ∧ σ.res (σ.res r) = r :=
  ⟨σ.sq_sq i, σ.sq_lt_iff i, σ.dir_dir d, σ.col_col g, σ.board_board b, σ.pend_pend p, σ.res_res r⟩

/-- The action on boards: the piece on `i` is found, with the image colour, on `σ i`; a board that
is empty outside the 64 squares is mapped to such a board. -/
theorem C11_board_action (σ : Sym) (b : Spec.Board) (i : Nat) :
    σ.board b (σ.sq i) = (b i).map σ.cell ∧
    ((∀ k, 64 ≤ k → b k = none) → ∀ k, 64 ≤ k → σ.board b k = none) :=
  ⟨σ.board_sq b i, σ.board_ge b⟩

/-- **Geometry.**  Neighbours go to neighbours in the image direction, trap squares to trap
squares, each colour's goal rank to the image colour's goal rank, and the direction forbidden to
a colour's rabbits to the direction forbidden to the image colour's rabbits. -/
theorem C11_geometry (σ : Sym) (i : Nat) (d : Spec.Dir) (g : Bool) (hi : i < 64) :
    nbr (σ.sq i) (σ.dir d) = (nbr i d).map σ.sq ∧
    isTrap (σ.sq i) = isTrap i ∧
    onGoalRank (σ.col g) (σ.sq i) = onGoalRank g i ∧
    backward (σ.col g) = σ.dir (backward g) :=
  ⟨σ.nbr_sq i d hi, σ.isTrap_sq i, σ.onGoalRank_sq g i hi, σ.backward_col g⟩

/-- "Some neighbour of `σ i` satisfies `f`" means "some neighbour of `i` satisfies `f ∘ σ`". -/
theorem C11_neighbours (σ : Sym) (f : Nat → Bool) (i : Nat) (hi : i < 64) :
    nbAny f (σ.sq i) = nbAny (fun j => f (σ.sq j)) i :=
  σ.nbAny_sq_congr f _ i hi (fun _ _ => rfl)

/-- **Frozen pieces map to frozen pieces**; likewise "a piece of colour `g` stands next to `i`",
"an enemy of `g` stronger than `s` stands next to `i`" and "an unfrozen piece of colour `g` stronger
than `s` stands next to `i`" (the pusher test), each with the image colour on the image square. -/
theorem C11_frozen (σ : Sym) (b : Spec.Board) (i : Nat) (g : Bool) (s : Nat) (hi : i < 64) :
    frozen (σ.board b) (σ.sq i) = frozen b i ∧
    hasFriend (σ.board b) (σ.sq i) (σ.col g) = hasFriend b i g ∧
    hasStrongerEnemy (σ.board b) (σ.sq i) (σ.col g) s = hasStrongerEnemy b i g s ∧
    hasPusher (σ.board b) (σ.col g) (σ.sq i) s = hasPusher b g i s :=
  ⟨σ.frozen_sq b i hi, σ.hasFriend_sq b i g hi, σ.hasStrongerEnemy_sq b i g s hi, σ.hasPusher_sq b g i s hi⟩

/-- **Offered steps map to offered steps.**  In the image turn state (image board, image side,
same step number, image obligation) the image step is enabled exactly when the step is enabled in
the original; ending the turn is enabled in both or in neither.  This holds for each of the four
kinds of step separately. -/
theorem C11_spec_enabled (σ : Sym) (b : Spec.Board) (gold : Bool) (step : Nat) (pend : Pending)
    (i : Nat) (d : Spec.Dir) (hi : i < 64) :
    enabledMove (σ.board b) (σ.col gold) step (σ.pend pend) (σ.sq i) (σ.dir d) =
      enabledMove b gold step pend i d ∧
    passEnabled step (σ.pend pend) = passEnabled step pend ∧
    ownStep (σ.board b) (σ.col gold) (σ.sq i) (σ.dir d) = ownStep b gold i d ∧
    pushStart (σ.board b) (σ.col gold) step (σ.sq i) (σ.dir d) = pushStart b gold step i d ∧
    pullEnd (σ.board b) (σ.col gold) (σ.pend pend) (σ.sq i) (σ.dir d) = pullEnd b gold pend i d ∧
    pushEnd (σ.board b) (σ.col gold) (σ.pend pend) (σ.sq i) (σ.dir d) = pushEnd b gold pend i d :=
  ⟨σ.enabledMove_sq b gold step pend i d hi, σ.passEnabled_pend step pend,
    σ.ownStep_sq b gold i d hi, σ.pushStart_sq b gold step i d hi, σ.pullEnd_sq b gold pend i d hi,
    σ.pushEnd_sq b gold pend i d hi⟩

/-- The same, read from the image side: a step `(k, d')` is enabled in the image state exactly when
its own image (`σ` is an involution) is enabled in the original state. -/
theorem C11_spec_enabled_image (σ : Sym) (b : Spec.Board) (gold : Bool) (step : Nat) (pend : Pending)
    (k : Nat) (d' : Spec.Dir) (hk : k < 64) :
    enabledMove (σ.board b) (σ.col gold) step (σ.pend pend) k d' =
      enabledMove b gold step pend (σ.sq k) (σ.dir d') := by
  have := σ.enabledMove_sq b gold step pend (σ.sq k) (σ.dir d') (σ.sq_lt k hk)
  rwa [σ.sq_sq, σ.dir_dir] at this

/-- **The effect of a step commutes with the symmetry**: moving a piece, the capture rule, and
their combination `applyStep`. -/
theorem C11_spec_apply (σ : Sym) (b : Spec.Board) (i j : Nat) (d : Spec.Dir) (hi : i < 64) :
    applyStep (σ.board b) (σ.sq i) (σ.dir d) = σ.board (applyStep b i d) ∧
    capture (σ.board b) = σ.board (capture b) ∧
    move (σ.board b) (σ.sq i) (σ.sq j) = σ.board (move b i j) :=
  ⟨σ.applyStep_sq b i d hi, σ.capture_sq b, σ.move_sq b i j⟩

/-- **Captures map to captures.**  A piece standing on `k` is removed by the capture rule exactly
when the piece on `σ k` of the image board is removed; a piece that stays, stays. -/
theorem C11_spec_captured (σ : Sym) (b : Spec.Board) (k : Nat) :
    ((σ.board b (σ.sq k)).isSome ∧ capture (σ.board b) (σ.sq k) = none ↔
      (b k).isSome ∧ capture b k = none) ∧
    capture (σ.board b) (σ.sq k) = (capture b k).map σ.cell := by
  rw [σ.capture_sq, σ.board_sq, σ.board_sq]
  refine ⟨?_, rfl⟩
  cases b k <;> cases capture b k <;> simp

/-- **The obligation left by a step maps to the obligation left by the image step.** -/
theorem C11_spec_next_pending (σ : Sym) (b : Spec.Board) (gold : Bool) (pend : Pending) (i : Nat)
    (d : Spec.Dir) (hi : i < 64) :
    nextPending (σ.board b) (σ.col gold) (σ.pend pend) (σ.sq i) (σ.dir d) =
      σ.pend (nextPending b gold pend i d) :=
  σ.nextPending_sq b gold pend i d hi

/-- **Results map to the correspondingly swapped results.**  The three scans behind the win
conditions (a rabbit on its goal rank, a rabbit left, a step available) are invariant, and the
result at the start of a turn of the image position is the image of the result: unchanged under
`mirror`, Gold's win exchanged with Silver's under `swap` and `both`. -/
theorem C11_spec_result (σ : Sym) (b : Spec.Board) (goldToMove : Bool) :
    result (σ.board b) (σ.col goldToMove) = (result b goldToMove).map σ.res ∧
    (∀ g, rabbitOnGoal (σ.board b) (σ.col g) = rabbitOnGoal b g) ∧
    (∀ g, hasRabbit (σ.board b) (σ.col g) = hasRabbit b g) ∧
    (∀ g, hasStep (σ.board b) (σ.col g) = hasStep b g) :=
  ⟨σ.result_sq b goldToMove, σ.rabbitOnGoal_sq b, σ.hasRabbit_sq b, σ.hasStep_sq b⟩

/-- how the results are exchanged -/
theorem C11_result_swap :
    Sym.mirror.res .goldWin = .goldWin ∧ Sym.mirror.res .silverWin = .silverWin ∧
    Sym.swap.res .goldWin = .silverWin ∧ Sym.swap.res .silverWin = .goldWin ∧
    Sym.both.res .goldWin = .silverWin ∧ Sym.both.res .silverWin = .goldWin :=
  ⟨rfl, rfl, rfl, rfl, rfl, rfl⟩

/-- **One action of the game.**  In the image state the image action is offered exactly when the
action is offered in the original state, and then the successor states are again images of each
other.  (`State.enabled`: a step from a square of the board allowed by `enabledMove`, or a pass
allowed by `passEnabled`; `State.next`: `applyStep`, then the step counter and `nextPending`, or
the change of sides after the fourth step or a pass.) -/
theorem C11_spec_step (σ : Sym) (s : State) (a : Act) :
    (σ.state s).enabled (σ.act a) = s.enabled a ∧
    (s.enabled a = true → (σ.state s).next (σ.act a) = σ.state (s.next a)) :=
  ⟨σ.enabled_act s a, σ.next_act s a⟩

/-- The offered sets correspond in both directions: an action is offered in the image state
exactly when its image is offered in the original state. -/
theorem C11_spec_offered_image (σ : Sym) (s : State) (a' : Act) :
    (σ.state s).enabled a' = s.enabled (σ.act a') := by
  have := (C11_spec_step σ s (σ.act a')).1
  rwa [σ.act_act] at this

/-- **Whole games.**  Playing the image actions from the image state succeeds (every action is
offered when its turn comes) exactly when playing the original actions from the original state
does, and the final states are images of each other. -/
theorem C11_spec_game (σ : Sym) (s : State) (as : List Act) :
    (σ.state s).run (as.map σ.act) = (s.run as).map σ.state :=
  σ.run_act s as

/-- **Every state of the game.**  The lists of all states passed (the start included) correspond
state by state. -/
theorem C11_spec_game_trace (σ : Sym) (s : State) (as : List Act) :
    State.trace (σ.state s) (as.map σ.act) = (State.trace s as).map (List.map σ.state) :=
  σ.trace_act s as

/-- **At every state of a game**: if a list of actions can be played from `s` and leads to `t`,
the image list can be played from the image of `s` and leads to the image of `t`; there the
offered actions are exactly the images of the actions offered in `t` (both directions), and the
result announced is the image of the result announced in `t`. -/
theorem C11_spec_game_everywhere (σ : Sym) (s t : State) (as : List Act) (h : s.run as = some t) :
    (σ.state s).run (as.map σ.act) = some (σ.state t) ∧
    (∀ a, (σ.state t).enabled (σ.act a) = t.enabled a) ∧
    (∀ a', (σ.state t).enabled a' = t.enabled (σ.act a')) ∧
    (σ.state t).result = t.result.map σ.res := by
  exact ⟨by rw [C11_spec_game, h]; rfl, fun a => (C11_spec_step σ t a).1,
    C11_spec_offered_image σ t, σ.result_state t⟩

/-- **All offered actions of the model correspond** (steps and the pass; rule-only list), in both
directions. -/
theorem C11_impl_offered_all (σ : Sym) (s s' : GameState) (pp pp' : PlayPhase)
    (h : PlayInv s pp) (h' : PlayInv s' pp') (hr : SymRel σ s pp s' pp') (a : Action) :
    (σ.iact a ∈ s'.validActionsNoRep ↔ a ∈ s.validActionsNoRep) ∧
    (a ∈ s'.validActionsNoRep ↔ σ.iact a ∈ s.validActionsNoRep) := by
  refine ⟨symRel_offered σ s s' pp pp' h h' hr a, ?_⟩
  have := symRel_offered σ s s' pp pp' h h' hr (σ.iact a)
  rwa [iact_iact] at this

/-- **Offered steps of the model map to offered steps** (rule-only list): for states related by
`σ`, the image step is in the image state's `validActionsNoRep` exactly when the step is in the
original state's. -/
theorem C11_impl_offered (σ : Sym) (s s' : GameState) (pp pp' : PlayPhase)
    (h : PlayInv s pp) (h' : PlayInv s' pp')
    (hb : absBoard s'.board = σ.board (absBoard s.board)) (ht : s'.p1Turn = σ.col s.p1Turn)
    (hs : pp'.step = pp.step) (hp : absPend pp'.pps = σ.pend (absPend pp.pps))
    (i : Nat) (d : Dir) :
    Action.move (σ.sq i) (σ.idir d) ∈ s'.validActionsNoRep ↔ Action.move i d ∈ s.validActionsNoRep :=
  (C11_impl_offered_all σ s s' pp pp' h h' ⟨hb, ht, hs, hp⟩ (.move i d)).1

/-- **At the start of a turn the offered lists themselves correspond** (`validActions`, repetition
rules on): there the repetition rules withhold nothing (`validActions_eq_noRep_step0`), in either
game, so the correspondence of the rule-only lists is the correspondence of the offered lists. -/
theorem C11_impl_offered_turn_start (σ : Sym) (s s' : GameState) (pp pp' : PlayPhase)
    (h : PlayInv s pp) (h' : PlayInv s' pp') (hr : SymRel σ s pp s' pp') (h0 : pp.step = 0)
    (a : Action) :
    σ.iact a ∈ s'.validActions ↔ a ∈ s.validActions := by
  rw [validActions_eq_noRep_step0 s pp h.phase h0,
    validActions_eq_noRep_step0 s' pp' h'.phase (by rw [hr.step, h0])]
  exact (C11_impl_offered_all σ s s' pp pp' h h' hr a).1

/-- **Successors are again related.**  Taking an offered action in one state and its image in the
related state leads to play-phase states that satisfy the invariant and are again images of each
other (so the boards after the step, captures included, the side to move, the step number and the
push/pull status all correspond). -/
theorem C11_impl_step (σ : Sym) (s s' : GameState) (pp pp' : PlayPhase)
    (h : PlayInv s pp) (h' : PlayInv s' pp') (hr : SymRel σ s pp s' pp') (a : Action)
    (ha : a ∈ s.validActionsNoRep) :
    σ.iact a ∈ s'.validActionsNoRep ∧
    ∃ pp1 pp1', PlayInv (s.takeAction a) pp1 ∧ PlayInv (s'.takeAction (σ.iact a)) pp1' ∧
      SymRel σ (s.takeAction a) pp1 (s'.takeAction (σ.iact a)) pp1' :=
  symRel_step σ s s' pp pp' h h' hr a ha

/-- **Whole games of the model** (rule-only lists): if a list of actions can be played from `s`,
each being in the rule-only list when its turn comes, the image list can be played from a related
state `s'`, and the final states are again related play-phase states; in particular
(`C11_impl_offered_all`) their rule-only lists correspond. -/
theorem C11_impl_game (σ : Sym) (as : List Action) (s s' : GameState) (pp pp' : PlayPhase)
    (h : PlayInv s pp) (h' : PlayInv s' pp') (hr : SymRel σ s pp s' pp') (hpl : PlayableNoRep s as) :
    PlayableNoRep s' (as.map σ.iact) ∧
    ∃ pp1 pp1', PlayInv (s.run as) pp1 ∧ PlayInv (s'.run (as.map σ.iact)) pp1' ∧
      SymRel σ (s.run as) pp1 (s'.run (as.map σ.iact)) pp1' :=
  let ⟨ho', r⟩ := symRel_run σ as s s' pp pp' h h' hr ((playableNoRep_iff_offeredNR s as).mp hpl)
  ⟨(playableNoRep_iff_offeredNR _ _).mpr ho', r⟩

/-- **Results of the model at the start of a turn are the swapped results.**  For related states
at the start of a turn (step 0, no push/pull status) `isTerminal` of the image state is the image
of `isTerminal` of the original: the same under `mirror`, winners exchanged under `swap` and
`both`.  (In the middle of a turn `isTerminal` asks whether the offered list *with* the
repetition rules is empty; that belongs to the repetition clause of C11, which is in
`Props/C11b.lean`.) -/
theorem C11_impl_result (σ : Sym) (s s' : GameState) (pp pp' : PlayPhase)
    (h : PlayInv s pp) (h' : PlayInv s' pp') (hr : SymRel σ s pp s' pp')
    (h0 : pp.step = 0) (hpps : pp.pps = .none) :
    s'.isTerminal = s.isTerminal.map σ.ires := by
  have hpps' : pp'.pps = .none := by
    apply absPend_eq_none
    rw [hr.pend, hpps]; rfl
  rw [isTerminal_step0_eq s pp h.phase h.wf h0 hpps,
    isTerminal_step0_eq s' pp' h'.phase h'.wf (by rw [hr.step, h0]) hpps', hr.board, hr.turn,
    σ.result_sq]
  cases Spec.result (absBoard s.board) s.p1Turn with
  | none => rfl
  | some r => simp only [Option.map, terminalOf_res]

-- the three images of the board: a7 ↦ h7 / a2 / h2, with the colour kept / exchanged / exchanged
example : Sym.mirror.board exBoardSym 15 = some ⟨true, .rabbit⟩ ∧ Sym.mirror.board exBoardSym 8 = none ∧
    Sym.swap.board exBoardSym 48 = some ⟨false, .rabbit⟩ ∧ Sym.swap.board exBoardSym 8 = none ∧
    Sym.both.board exBoardSym 55 = some ⟨false, .rabbit⟩ ∧ Sym.both.board exBoardSym 8 = some ⟨true, .rabbit⟩ := by
  decide +kernel

-- frozen: the silver rabbit c5 and its images f5, c4 (gold in the image), f4 (gold in the image)
example : frozen exBoardSym 26 = true ∧ frozen (Sym.mirror.board exBoardSym) 29 = true ∧
    frozen (Sym.swap.board exBoardSym) 34 = true ∧ frozen (Sym.both.board exBoardSym) 37 = true ∧
    frozen exBoardSym 27 = false ∧ frozen (Sym.both.board exBoardSym) 36 = false := by decide +kernel

-- offered: the gold rabbit a7 may step north, not south; its swapped image, a silver rabbit on
-- a2, may step south, not north; the mirrored one on h7 north, not south
example : enabledMove exBoardSym true 0 .none 8 .n = true ∧ enabledMove exBoardSym true 0 .none 8 .s = false ∧
    enabledMove (Sym.swap.board exBoardSym) false 0 .none 48 .s = true ∧
    enabledMove (Sym.swap.board exBoardSym) false 0 .none 48 .n = false ∧
    enabledMove (Sym.mirror.board exBoardSym) true 0 .none 15 .n = true ∧
    enabledMove (Sym.mirror.board exBoardSym) true 0 .none 15 .s = false := by decide +kernel

-- offered: the elephant d5 may push the rabbit c5 west (to b5); in the half-turned position the
-- silver elephant e4 may push the gold rabbit f4 east (to g4); the obligations correspond
example : pushStart exBoardSym true 0 26 .w = true ∧
    pushStart (Sym.both.board exBoardSym) false 0 37 .e = true ∧
    nextPending exBoardSym true .none 26 .w = .push 26 .rabbit ∧
    nextPending (Sym.both.board exBoardSym) false .none 37 .e = .push 37 .rabbit ∧
    pushEnd (applyStep exBoardSym 26 .w) true (.push 26 .rabbit) 27 .w = true ∧
    pushEnd (applyStep (Sym.both.board exBoardSym) 37 .e) false (.push 37 .rabbit) 36 .e = true := by decide +kernel

-- captures: when the cat c2 steps west the horse on c3 is captured; mirrored: cat f2 steps east
-- and the horse on f3 is captured; swapped: silver cat c7 steps west, silver horse on c6 captured
example : exBoardSym 42 = some ⟨true, .horse⟩ ∧ applyStep exBoardSym 50 .w 42 = none ∧
    Sym.mirror.board exBoardSym 45 = some ⟨true, .horse⟩ ∧ applyStep (Sym.mirror.board exBoardSym) 53 .e 45 = none ∧
    Sym.swap.board exBoardSym 18 = some ⟨false, .horse⟩ ∧ applyStep (Sym.swap.board exBoardSym) 10 .w 18 = none := by
  decide +kernel

-- results: after the rabbit reaches a8 Gold has won; in the swapped game Silver has won
example : result (applyStep exBoardSym 8 .n) false = some .goldWin ∧
    result (applyStep (Sym.mirror.board exBoardSym) 15 .n) false = some .goldWin ∧
    result (applyStep (Sym.swap.board exBoardSym) 48 .s) true = some .silverWin ∧
    result (applyStep (Sym.both.board exBoardSym) 55 .s) true = some .silverWin ∧
    result exBoardSym true = none ∧ result (Sym.swap.board exBoardSym) false = none := by decide +kernel

-- the hypothesis of `C11_spec_game_everywhere` is satisfiable: the game can be played, and so
-- can its three images
example : (State.run ⟨exBoardSym, true, 0, .none⟩ exGame).isSome = true ∧
    (State.run (Sym.mirror.state ⟨exBoardSym, true, 0, .none⟩) (exGame.map Sym.mirror.act)).isSome = true ∧
    (State.run (Sym.swap.state ⟨exBoardSym, true, 0, .none⟩) (exGame.map Sym.swap.act)).isSome = true ∧
    (State.run (Sym.both.state ⟨exBoardSym, true, 0, .none⟩) (exGame.map Sym.both.act)).isSome = true := by
  decide +kernel

-- ... and not every list can be played (the machine is not trivially permissive)
example : State.run ⟨exBoardSym, true, 0, .none⟩ [.move 26 .w, .pass] = none := by decide +kernel

-- the hypotheses of the transfer theorems are satisfiable, for each of the three symmetries, and
-- so is `PlayableNoRep` of `C11_impl_game`
example (σ : Sym) :
    PlayInv (exModelState exModelBoard true) (PlayPhase.initial 0 []) ∧
    PlayInv (exModelState (exModelImage σ) (σ.col true)) (PlayPhase.initial 0 []) ∧
    SymRel σ (exModelState exModelBoard true) (PlayPhase.initial 0 [])
      (exModelState (exModelImage σ) (σ.col true)) (PlayPhase.initial 0 []) := exModel_rel σ

example : PlayableNoRep (exModelState exModelBoard true) [.move 26 .left, .move 27 .left, .pass] :=
  ⟨by decide +kernel, by decide +kernel, by decide +kernel, trivial⟩

-- the offered steps of the model correspond on the example: the elephant's push of c5
example : Action.move 26 .left ∈ (exModelState exModelBoard true).validActionsNoRep ∧
    Action.move 37 .right ∈ (exModelState (exModelImage .both) false).validActionsNoRep := by
  decide +kernel

end Arimaa
