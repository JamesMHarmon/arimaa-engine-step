import Arimaa.Lemmas.GenAgree

/-! Agreement (see `GenAgree`) of the piece masks and the freezing helpers. -/
namespace Arimaa
open Gen GameState

set_option linter.unusedSimpArgs false

theorem agree_influenced_squares (x : BB) :
    Gen.Fn.influenced_squares x = influencedSquares x := by
  first
    | rfl
    | (simp only [Gen.Fn.influenced_squares, influencedSquares] <;> first | rfl | ac_rfl)
    | bitwise_agree

theorem agree_supported_pieces (x : BB) :
    Gen.Fn.supported_pieces x = supportedPieces x := by
  first
    | rfl
    | (simp only [Gen.Fn.supported_pieces, supportedPieces] <;> first | rfl | ac_rfl)
    | bitwise_agree

theorem agree_player_piece_mask (b : Board) (g : Bool) :
    Gen.Fn.player_piece_mask b g = b.playerPieceMask g := by
  first
    | rfl
    | (simp only [Gen.Fn.player_piece_mask, Board.playerPieceMask] <;> first | rfl | ac_rfl)
    | bitwise_agree

theorem agree_curr_player_piece_mask (s : GameState) (b : Board) :
    Gen.Fn.curr_player_piece_mask s.p1Turn b = s.currPlayerPieceMask b := by
  first
    | rfl
    | (simp only [Gen.Fn.curr_player_piece_mask, currPlayerPieceMask] <;> first | rfl | ac_rfl)
    | bitwise_agree

theorem agree_opponent_piece_mask (s : GameState) (b : Board) :
    Gen.Fn.opponent_piece_mask s.p1Turn b = s.opponentPieceMask b := by
  first
    | rfl
    | (simp only [Gen.Fn.opponent_piece_mask, opponentPieceMask] <;> first | rfl | ac_rfl)
    | bitwise_agree

theorem agree_threatened_pieces (g : Bool) (pred prey : BB) (b : Board) :
    Gen.Fn.threatened_pieces g pred prey b = threatenedPieces pred prey b := by
  first
    | rfl
    | (simp only [Gen.Fn.threatened_pieces, threatenedPieces, agree_influenced_squares] <;> first | rfl | ac_rfl)
    | bitwise_agree

theorem agree_curr_player_non_frozen_pieces (s : GameState) (b : Board) :
    Gen.Fn.curr_player_non_frozen_pieces s.p1Turn b = s.currPlayerNonFrozenPieces b := by
  first
    | rfl
    | (simp only [Gen.Fn.curr_player_non_frozen_pieces, currPlayerNonFrozenPieces, agree_opponent_piece_mask, agree_threatened_pieces, agree_supported_pieces] <;> first | rfl | ac_rfl)
    | bitwise_agree

end Arimaa
