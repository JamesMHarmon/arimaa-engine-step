-- GENERATED by /verif/tools/gen.py -- do not edit.  Bridge from the current text of `GameState::eq` to the baseline text.
import Arimaa.Gen.Rs
import Arimaa.Gen.RsBase
import Arimaa.Gen.BridgeLadder
import Arimaa.Gen.Bridge.Zobrist_board_state_hash

namespace Arimaa.Gen.Bridge
open Arimaa Arimaa.Gen Arimaa.Rt

set_option maxHeartbeats 1000000 in
theorem bridge_GameState_eq : @Rs.GameState_eq = @RsBase.GameState_eq := by
  funext a0 a1
  rs_ladder [Rs.GameState_eq, RsBase.GameState_eq, bridge_Zobrist_board_state_hash] [RsBase.Zobrist_board_state_hash] (skip) [Rs.GameState_eq, RsBase.GameState_eq, Rs.Zobrist_board_state_hash, RsBase.Zobrist_board_state_hash]

end Arimaa.Gen.Bridge
