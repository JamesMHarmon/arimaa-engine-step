import Arimaa.Lemmas.PlayStart
import Arimaa.Lemmas.StartInv
import Arimaa.Props.C13
import Arimaa.Props.C15

/-!
C10 — All views of the board describe one consistent legal position.

`WF b`: per square at most one of the six type boards has the bit, `all` is their union, `p1 ⊆ all`.
`absBoard b k` is the (owner, piece) read from the type boards and `p1`; all other views are
characterised against it.  Bit `k` is file `k % 8`, rank `8 - k / 8` (C16_square_conversions).
-/
namespace Arimaa
open Gen Spec

/-- **Well-formed in setup**: after any offered placements from the initial state. -/
theorem C10_wf_setup {ps : List Piece} {s : GameState} (hr : SetupRun ps s) : WF s.board :=
  setupRun_wf hr

/-- **Well-formed after parsing** any text that parses. -/
theorem C10_wf_parsed (t : List Char) (s : GameState) (h : parseState t = .ok s) : WF s.board :=
  parseState_wf t s h

/-- **Well-formed in play**: preserved by every action of the rule-only list, hence at every state of
every offered run from a finished setup or a parsed position. -/
theorem C10_wf_play (s : GameState) (pp : PlayPhase) (h : PlayInv s pp) (as : List Action)
    (ho : OfferedNR s as) : WF (s.run as).board := by
  obtain ⟨pp', h'⟩ := playInv_run s pp h as ho
  exact h'.wf

/-- a parsed position satisfies the play invariant -/
theorem C10_playInv_parsed (t : List Char) (s : GameState) (h : parseState t = .ok s) :
    ∃ pp, PlayInv s pp ∧ pp.step = 0 :=
  ⟨_, (parseState_startOk t s h).playInv, rfl⟩

/-- **All views agree** with the abstract board on every square `k < 64` of a well-formed board:
per-piece-per-side bits, per-side masks, per-type bits, the all-pieces board, the square lookup and
the character printed in the diagram. -/
theorem C10_views_agree (b : Board) (hw : WF b) (k : Nat) (hk : k < 64) :
    (∀ p g, bit (b.bitsForPiece p g) k = (absBoard b k == some ⟨g, toSpec p⟩)) ∧
    (∀ g, bit (b.playerPieceMask g) k = ownedBy (absBoard b) g k) ∧
    (∀ p, bit (b.bitsByPieceType p) k = (typeAt b k == some p)) ∧
    bit b.all k = (absBoard b k).isSome ∧
    b.pieceTypeAtSquare k = typeAt b k ∧
    absBoard b k = (typeAt b k).map (fun t => ⟨bit b.p1 k, toSpec t⟩) ∧
    cellChar b k =
      (match typeAt b k with
       | some t => pieceToLetter t (bit b.p1 k)
       | none => if Spec.isTrap k then 'x' else ' ') := by
  refine ⟨fun p g => bitsForPiece_bit b hw p g k, fun g => ?_, fun p => ?_, hw.rep.all_bit k,
    pieceTypeAtSquare_eq b hw k hk, ?_, ?_⟩
  · exact hw.rep.side_bit k g
  · rw [bitsByPieceType_eq, typeAt_bits b hw k p]
    exact (Bool.beq_eq_decide_eq _ _).symm
  · exact absBoard_apply b k
  · exact cellChar_eq b hw k hk

/-- **No unsupported trap piece once any step of the rule-only list has been applied.** -/
theorem C10_no_hanging_after_action (s : GameState) (pp : PlayPhase) (h : PlayInv s pp) (i : Nat) (d : Dir)
    (ha : Action.move i d ∈ s.validActionsNoRep) :
    NoHanging (absBoard (s.takeAction (.move i d)).board) :=
  C13_no_hanging_after_step s pp h i d ha

/-- a well-formed board exists: the hypothesis of `C10_views_agree` is satisfiable -/
example : WF (Board.new (sqBit 42 ||| sqBit 50) 0 0 0 0 (sqBit 42) (sqBit 50 ||| sqBit 9)) :=
  wf_of_wfWords _ (by decide +kernel)

end Arimaa
