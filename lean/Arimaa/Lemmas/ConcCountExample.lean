import Arimaa.Lemmas.ConcCount

/-! A concrete instance of the thread/heap model: two threads expanding one shared three-node history.  It is a
well-formed initial state: the hypotheses `WellFormed` and `RootsSafe` of the C18 (b) theorems are not vacuous. -/

namespace Arimaa.Conc.Example

def n0 : NodeId := ⟨0, 0⟩
def n1 : NodeId := ⟨0, 1⟩
def n2 : NodeId := ⟨0, 2⟩

/-- history `7 ← 8 ← 9`, head `n2`, held once by the shared state -/
def fields0 : NodeId → Option Fields := fun id =>
  if id = n0 then some ⟨7, none, 1⟩ else if id = n1 then some ⟨8, some n0, 2⟩
  else if id = n2 then some ⟨9, some n1, 3⟩ else none

def arcs0 : NodeId → Meta := fun id =>
  if id = n0 then { owners := [.node n1] } else if id = n1 then { owners := [.node n2] }
  else if id = n2 then { owners := [.root 0] } else {}

/-- "take an action": read the length, append a hash, count by iterating down the new list and past its end, clone it,
drop both handles -/
def expand (h : Nat) : Prog :=
  .readLen ⟨.root 0, 0⟩ fun _ =>
  .append (some ⟨.root 0, 0⟩) h fun _ =>
  .readElem ⟨.own 0, 0⟩ fun _ => .readElem ⟨.own 0, 1⟩ fun _ => .readElem ⟨.own 0, 2⟩ fun _ =>
  .readElem ⟨.own 0, 3⟩ fun _ => .readElem ⟨.own 0, 4⟩ fun _ => .readLen ⟨.own 0, 0⟩ fun _ =>
  .clone ⟨.own 0, 0⟩ fun _ => .drop 0 (.drop 1 .done)

def init : State :=
  { fields := fields0, arcs := arcs0, roots := [n2],
    threads := [{ loc := { prog := expand 100 } }, { loc := { prog := expand 200 } }] }

def traceOf (s : State) (t : Nat) : Option (List (Option Nat)) := s.threads[t]?.map (·.loc.trace)

def schedA : List Nat := [0, 1, 0, 1, 0, 1, 0, 1, 0, 1, 0, 1, 0, 1, 0, 1, 0, 1, 0, 1, 0, 1, 0, 1, 0, 1, 0, 1, 0, 1, 0, 1]
def schedB : List Nat := [1, 1, 1, 0, 1, 1, 1, 1, 1, 0, 0, 0, 0, 0, 0, 0, 0, 1, 1, 1, 1, 1, 1, 1, 0, 0, 0, 0, 0, 0, 0, 0]

theorem init_thread {t : Nat} {th : Thread} (h : init.threads[t]? = some th) :
    th.rel = .idle ∧ th.loc.table = [] := by
  match t, h with
  | 0, h => cases h; exact ⟨rfl, rfl⟩
  | 1, h => cases h; exact ⟨rfl, rfl⟩
  | t + 2, h => cases h

theorem fields0_cases {p : NodeId} {f : Fields} (h : fields0 p = some f) :
    (p = n0 ∧ f = ⟨7, none, 1⟩) ∨ (p = n1 ∧ f = ⟨8, some n0, 2⟩) ∨ (p = n2 ∧ f = ⟨9, some n1, 3⟩) := by
  simp only [fields0] at h
  split at h
  · next hp => cases h; exact .inl ⟨hp, rfl⟩
  · split at h
    · next hp => cases h; exact .inr (.inl ⟨hp, rfl⟩)
    · split at h
      · next hp => cases h; exact .inr (.inr ⟨hp, rfl⟩)
      · cases h

theorem arena_pos_fresh (a i : Nat) :
    fields0 ⟨a + 1, i⟩ = none ∧ (arcs0 ⟨a + 1, i⟩).owners = [] ∧ (arcs0 ⟨a + 1, i⟩).freed = false := by
  simp [fields0, arcs0, n0, n1, n2]

theorem arcs0_cases (id : NodeId) :
    (arcs0 id).freed = false ∧
    ((id = n0 ∧ (arcs0 id).owners = [.node n1]) ∨ (id = n1 ∧ (arcs0 id).owners = [.node n2]) ∨
     (id = n2 ∧ (arcs0 id).owners = [.root 0]) ∨ (arcs0 id).owners = []) := by
  simp only [arcs0]
  split
  · next h => exact ⟨rfl, .inl ⟨h, rfl⟩⟩
  · split
    · next h => exact ⟨rfl, .inr (.inl ⟨h, rfl⟩)⟩
    · split
      · next h => exact ⟨rfl, .inr (.inr (.inl ⟨h, rfl⟩))⟩
      · exact ⟨rfl, .inr (.inr (.inr rfl))⟩

theorem init_wellFormed : WellFormed init := by
  refine ⟨fun t th h => (init_thread h).1, fun i id h => ?_, fun t th k id h hk => ?_,
    fun p f id hp hn _ => ?_, fun id h => ?_, fun t th i h _ => arena_pos_fresh t i⟩
  · match i, h with
    | 0, h => cases h; decide
    | i + 1, h => cases h
  · rw [(init_thread h).2] at hk; cases hk
  · rcases fields0_cases hp with ⟨rfl, rfl⟩ | ⟨rfl, rfl⟩ | ⟨rfl, rfl⟩ <;> cases hn <;> decide
  · exact Bool.noConfusion ((arcs0_cases id).1.symm.trans h)

theorem init_rootsSafe : RootsSafe init init := init_wellFormed.rootsSafe

end Arimaa.Conc.Example
