import Arimaa.Props.C20

/-!
# C18 — concurrent RELEASE of shared histories

`Props/C18.lean` / `C18b.lean` cover reading and extending shared states from several threads.  The one place
where threads that only own clones of a state still interact is the moment they let go of them: the last owners
of a shared history run `Drop for List` concurrently.  The two corollaries of `Props/C20.lean` below put that
obligation into C18's closure: a change of the Drop variant in the source breaks the first.
-/

namespace Arimaa.Props
open Arimaa.ListStack

/-- **C18, concurrent release.**  Any number of threads, each dropping a handle of (or otherwise using) shared
history lists, under every schedule, with the `Drop` of the source (`currentVariant`): no thread's stack grows
with the length of the history. -/
theorem C18_concurrent_release (h : Heap) (work : List (Link ⊕ ListOp)) (sched : List Nat) (t : Nat) :
    currentVariant = .loopIntoInner ∧ cheight (crun ⟨h, work.map threadStart⟩ sched) t ≤ 2 :=
  ⟨C20_current_variant, C20_loop_bounded_concurrent h work sched t⟩

/-- the variant that is sequentially equivalent is not: for every bound there is a heap, a handle shared by two
threads and a schedule on which the second thread recurses deeper than the bound -/
theorem C18_try_unwrap_would_race : ∀ B : Nat, ∃ (h : Heap) (id : NodeId) (node : Node) (sched : List Nat),
    h[id]? = some node ∧ node.rc = 2 ∧
    B < cheight (crun ⟨h, [[dropFrame .loopTryUnwrap (some id)], [dropFrame .loopTryUnwrap (some id)]]⟩ sched) 1 :=
  C20_try_unwrap_race

end Arimaa.Props
