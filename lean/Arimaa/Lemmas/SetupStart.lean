import Arimaa.Lemmas.HashPlace
import Arimaa.Lemmas.Setup
import Arimaa.Lemmas.Start

/-!
The state after the 32nd placement is a start state (`StartOk`): the setup invariants give what
`place` needs for its hash (`PlaceReady`), so the setup form of the hash invariant holds along the
setup and turns into the from-scratch hash with the last placement.
-/
namespace Arimaa
open Gen

theorem placeReady_of_shape {k : Nat} {s : GameState} (h : SetupShape k s) : PlaceReady s := by
  have hq := placementSquare_lt k h.lt
  have hpb := h.board.placementBit_eq h.lt
  have hsq := h.board.sqOfBit_placementBit h.lt
  obtain ⟨h15, h31⟩ := h.board.last_tests h.lt
  have hw := h.board.wf
  refine ⟨⟨hsq ▸ hq, hsq.symm ▸ hpb⟩, hpb ▸ and_sqBit_eq_zero _ _ hq (h.board.all_next h.lt),
    hw.typeBits_and_all, hw.p1_and_all, fun he => ?_, fun he => ?_⟩
  · rw [beq_iff_eq.mpr he] at h15
    rw [h.turn, of_decide_eq_true h15.symm]; rfl
  · rw [beq_iff_eq.mpr he] at h31
    rw [h.turn, of_decide_eq_true h31.symm]; rfl

theorem setupRun_hash {ps : List Piece} {s : GameState} (hr : SetupRun ps s) :
    (ps.length < 32 → SetupHashOk s) ∧
      (ps.length = 32 → s.hash = zFromPieceBoard s.board true 0) := by
  induction hr with
  | init => exact ⟨fun _ => setupHashOk_initial, fun h => by cases h⟩
  | @step ps s p hr _ ih =>
    rw [List.length_append, List.length_singleton]
    -- `setupHashOk_place` splits on the mask test "last Silver square"; along a run that is `ps.length = 31`
    have key : ps.length < 32 →
        (ps.length ≠ 31 → SetupHashOk (s.place p)) ∧
        (ps.length = 31 → (s.place p).hash = zFromPieceBoard (s.place p).board true 0) := by
      intro hlt
      have hs := setupRun_shape hr hlt
      obtain ⟨h1, h2⟩ := setupHashOk_place s (ih.1 hlt) (placeReady_of_shape hs) p
      have hiff : s.board.placementBit = LAST_P2_PLACEMENT_MASK ↔ ps.length = 31 := by
        rw [← beq_iff_eq, (hs.board.last_tests hlt).2, decide_eq_true_eq]
      exact ⟨fun hne => (h1 (fun e => hne (hiff.mp e))).2, fun e => (h2 (hiff.mpr e)).2.1⟩
    exact ⟨fun h => (key (by omega)).1 (by omega), fun h => (key (by omega)).2 (by omega)⟩

theorem setupRun_startOk {ps : List Piece} {s : GameState} (hr : SetupRun ps s)
    (h32 : ps.length = 32) : StartOk s := by
  obtain ⟨ht, _, hp⟩ := setupRun_final hr h32
  exact ⟨setupRun_wf hr, hp, by rw [ht]; exact (setupRun_hash hr).2 h32⟩

end Arimaa
