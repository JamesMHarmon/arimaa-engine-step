import Lean.Meta.Tactic.Simp.RegisterCommand

/-- monad laws of `Rt.Res` and associativity of `^^^ &&& ||| && || ++`: the normal form in which two texts of a
function are compared by the bridge ladder (`Gen/BridgeLadder.lean`) -/
register_simp_attr rs_norm

/-- commutativity of `^^^ &&& ||| && ||`, used together with `rs_norm` -/
register_simp_attr rs_ac
