import Arimaa.Lemmas.Abs
import Arimaa.Lemmas.SquareBits

/-! The generated direction-indexed shifts against the specification's `nbr`. -/
namespace Arimaa
open Gen Spec

theorem oppShift_bit (x : BB) (d : Dir) (i : Nat) (h : i < 64) :
    bit (shiftPiecesInOppDirection d x) i =
      (match nbr i (dirSpec d) with
       | some j => bit x j
       | none => false) := by
  cases d <;> simp only [shiftPiecesInOppDirection, dirSpec, nbr]
  · rw [down_bit x i h]; by_cases h8 : 8 ≤ i <;> simp [h8]
  · rw [left_shift_bit x i h]; by_cases h7 : i % 8 = 7 <;> simp [h7]
  · rw [up_bit x i h]; by_cases h8 : i + 8 < 64 <;> simp [h8]
  · rw [right_shift_bit x i h]; by_cases h0 : i % 8 = 0 <;> simp [h0]

theorem dirShift_bit (x : BB) (d : Dir) (i : Nat) (h : i < 64) :
    bit (shiftPiecesInDirection d x) i =
      (match nbr i (dirSpec d).opp with
       | some j => bit x j
       | none => false) := by
  cases d
  · exact oppShift_bit x .down i h
  · exact oppShift_bit x .left i h
  · exact oppShift_bit x .up i h
  · exact oppShift_bit x .right i h

theorem canMove_bit (d : Dir) (b : Board) (i : Nat) (h : i < 64) :
    bit (canMoveInDirection d b) i = true ↔ ∃ j, nbr i (dirSpec d) = some j ∧ bit b.all j = false := by
  unfold canMoveInDirection
  rw [oppShift_bit _ d i h]
  cases hn : nbr i (dirSpec d) with
  | none => simp
  | some j =>
    have hj := nbr_lt i j _ h hn
    simp [bit_not, hj]

theorem canMove_abs (d : Dir) (b : Board) (hw : WF b) (i : Nat) (hi : i < 64) :
    bit (canMoveInDirection d b) i =
      match nbr i (dirSpec d) with
      | some j => (absBoard b j).isNone
      | none => false := by
  unfold canMoveInDirection
  rw [oppShift_bit _ d i hi]
  cases hn : nbr i (dirSpec d) with
  | none => rfl
  | some j =>
    have hj := nbr_lt i j _ hi hn
    simp only [bit_not, hj, decide_true, Bool.true_and, absBoard_isNone b hw j]

/-- both sides have bit `i` iff `q` is the `d`-neighbour of `i` -/
theorem oppShift_sqBit_eq (d : Dir) (q : Nat) (hq : q < 64) :
    shiftPiecesInOppDirection d (sqBit q) =
      match nbr q (dirSpec d).opp with
      | some j => sqBit j
      | none => 0 := by
  apply bb_ext
  intro i hi
  have key : nbr i (dirSpec d) = some q ↔ nbr q (dirSpec d).opp = some i :=
    ⟨nbr_opp i q _ hi, fun h => by have := nbr_opp q i _ hq h; rwa [Spec.Dir.opp_opp] at this⟩
  have l : (match nbr i (dirSpec d) with | some j => bit (sqBit q) j | none => false) =
      decide (nbr i (dirSpec d) = some q) := by
    cases nbr i (dirSpec d) with
    | none => simp
    | some j => simp [sqBit_bit q j hq]
  have r : bit (match nbr q (dirSpec d).opp with | some j => sqBit j | none => 0) i =
      decide (nbr q (dirSpec d).opp = some i) := by
    cases hn : nbr q (dirSpec d).opp with
    | none => simp
    | some j => simp [sqBit_bit j i (nbr_lt q j _ hq hn), eq_comm]
  rw [oppShift_bit _ d i hi, l, r]
  exact decide_eq_decide.mpr key

theorem Dir_ALL_nodup : Dir_ALL.Nodup := by decide

theorem dirSpec_surj (d : Spec.Dir) : ∃ d', dirSpec d' = d := by
  cases d
  · exact ⟨.up, rfl⟩
  · exact ⟨.right, rfl⟩
  · exact ⟨.down, rfl⟩
  · exact ⟨.left, rfl⟩

end Arimaa
