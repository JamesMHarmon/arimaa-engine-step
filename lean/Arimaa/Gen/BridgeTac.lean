import Arimaa.Gen.Rt

/-!
Tactics used by the generated bridge modules `Gen/Bridge/<fn>.lean` (`@Rs.f = @RsBase.f`) when the current text of a
function differs from the baseline text.  Hand-written; they prove nothing by themselves, every bridge is checked by
the kernel.  Each either closes all goals or fails (so that the next rung of the ladder is tried).

* `rs_bridge_cases` : case analysis on every conditional and `match` of both sides, then `simp_all`;
* `rs_bridge_bits`  : two bitboard expressions built from `&&&`, `|||`, `^^^`, `~~~` compared bit by bit.
-/
namespace Arimaa.Gen.Bridge

theorem nat_blt_eq_decide (a b : Nat) : Nat.blt a b = decide (a < b) := Rt.blt_decide a b

theorem nat_ble_eq_decide (a b : Nat) : Nat.ble a b = decide (a ≤ b) := Rt.ble_decide a b

theorem bv_xor_left_comm (a b c : BitVec 64) : a ^^^ (b ^^^ c) = b ^^^ (a ^^^ c) := by
  rw [← BitVec.xor_assoc, BitVec.xor_comm a b, BitVec.xor_assoc]
theorem bv_and_left_comm (a b c : BitVec 64) : a &&& (b &&& c) = b &&& (a &&& c) := by
  rw [← BitVec.and_assoc, BitVec.and_comm a b, BitVec.and_assoc]
theorem bv_or_left_comm (a b c : BitVec 64) : a ||| (b ||| c) = b ||| (a ||| c) := by
  rw [← BitVec.or_assoc, BitVec.or_comm a b, BitVec.or_assoc]

macro "rs_bridge_bits" : tactic => `(tactic| (
  apply BitVec.eq_of_getLsbD_eq; intro i hi
  simp only [BitVec.getLsbD_and, BitVec.getLsbD_or, BitVec.getLsbD_xor, BitVec.getLsbD_not]
  grind))

macro "rs_bridge_cases" : tactic => `(tactic| (
  try simp only [Bool.cond_eq_ite]
  repeat' (first | rfl | split)
  all_goals (first | rfl | (simp_all [Arimaa.Rt.Res.bind, Arimaa.Rt.Res.guard]; done) | rs_bridge_bits |
    (simp_all [Arimaa.Rt.Res.bind, Arimaa.Rt.Res.guard, Nat.ble_eq, Nat.blt_eq] <;> omega))))

/-- like `rs_bridge_cases`, but every `Res.bind x f` is first opened into a `match` on `x`, so that two texts
that run the same fallible sub-computations in a different order or nesting are compared outcome by outcome -/
macro "rs_bridge_split" : tactic => `(tactic| (
  simp only [Bool.cond_eq_ite, Arimaa.Rt.Res.bind, Arimaa.Rt.unwrap]
  repeat' (first | rfl | split)
  all_goals (first | rfl | (simp_all [Arimaa.Rt.Res.bind, Arimaa.Rt.Res.guard]; done) | rs_bridge_bits |
    (simp_all [Arimaa.Rt.Res.bind, Arimaa.Rt.Res.guard, Nat.ble_eq, Nat.blt_eq] <;> omega))))

/-- like `rs_bridge_split`, but after every case split the equations it introduced (`e = some x` for a `match` whose
discriminant `e` is not a variable) are rewritten everywhere, so that a second `match` on the same `e` -- on the
other side, or behind an `unwrap` -- follows the same branch -/
macro "rs_bridge_hsplit" : tactic => `(tactic| (
  simp only [Bool.cond_eq_ite, Arimaa.Rt.Res.bind, Arimaa.Rt.unwrap]
  repeat' (first | rfl | (split <;> try (simp only [*] at *)))
  all_goals (first | rfl | (simp_all [Arimaa.Rt.Res.bind, Arimaa.Rt.Res.guard]; done) | rs_bridge_bits |
    (simp_all [Arimaa.Rt.Res.bind, Arimaa.Rt.Res.guard, Nat.ble_eq, Nat.blt_eq] <;> omega))))

end Arimaa.Gen.Bridge
