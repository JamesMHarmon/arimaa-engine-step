-- GENERATED by /verif/tools/gen.py -- do not edit.  Bridge from the current text of `can_move_in_direction` to the baseline text.
import Arimaa.Gen.Rs
import Arimaa.Gen.RsBase
import Arimaa.Gen.BridgeLadder
import Arimaa.Gen.Bridge.shift_pieces_in_opp_direction

namespace Arimaa.Gen.Bridge
open Arimaa Arimaa.Gen Arimaa.Rt

set_option maxHeartbeats 1000000 in
theorem bridge_can_move_in_direction : @Rs.can_move_in_direction = @RsBase.can_move_in_direction := by
  funext a0 a1
  rs_ladder [Rs.can_move_in_direction, RsBase.can_move_in_direction, bridge_shift_pieces_in_opp_direction] [RsBase.shift_pieces_in_opp_direction] (cases a0) [Rs.can_move_in_direction, RsBase.can_move_in_direction, Rs.shift_pieces_in_opp_direction, RsBase.shift_pieces_in_opp_direction]

end Arimaa.Gen.Bridge
