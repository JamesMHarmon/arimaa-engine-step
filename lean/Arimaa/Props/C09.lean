import Arimaa.Lemmas.Setup
import Arimaa.Lemmas.Types

/-!
# C09 — setup: 16 pieces per side, fixed square order, then play

The statements use the vocabulary of `Lemmas/Setup.lean`: `placementSquare k` is the square filled by
placement number `k` (a2..h2, a1..h1 for Gold, `k = 0..15`; a8..h8, a7..h7 for Silver, `k = 16..31`;
`C09_square_order`), `complement` the army 1, 1, 2, 2, 2, 8, `moverCount s t` what `valid_placement`
counts.  `SetupShape k s` is the state-only invariant "setup state after `k < 32` placements",
`SetupRun ps s` says that `s` is reached from `GameState::initial()` by the offered placements `ps`,
and `moverPlaced ps` is the mover's own part of `ps`.
-/
namespace Arimaa

/-- The placement order on the board: placements 0..7 go to rank 2, 8..15 to rank 1 (Gold),
16..23 to rank 8, 24..31 to rank 7 (Silver), each from file a to file h. -/
theorem C09_square_order (k : Nat) (hk : k < 32) :
    placementSquare k < 64 ∧ placementSquare k % 8 = k % 8 ∧
      8 - placementSquare k / 8 = (if k < 8 then 2 else if k < 16 then 1 else if k < 24 then 8 else 7) := by
  have : ∀ j : Fin 32, placementSquare j.1 < 64 ∧ placementSquare j.1 % 8 = j.1 % 8 ∧
      8 - placementSquare j.1 / 8 =
        (if j.1 < 8 then 2 else if j.1 < 16 then 1 else if j.1 < 24 then 8 else 7) := by decide +kernel
  exact this ⟨k, hk⟩

/-- No placement is offered once the play phase has begun (with or without the repetition
filter), so no game contains more than thirty-two placements. -/
theorem C09_at_most_32 :
    (∀ (s : GameState) (pp : PlayPhase) (chk : Bool) (p : Piece), s.phase = .play pp →
      Action.place p ∉ s.validActions_ chk) ∧
    (∀ (ps : List Piece) (s : GameState), SetupRun ps s → ps.length ≤ 32) :=
  ⟨fun s pp chk p h => validActions_play_notPlace s pp h chk p,
   fun _ _ hr => setupRun_length_le hr⟩

/-- Board shape after any offered placements from the initial state (`k = ps.length`, `k ≤ 32` by
`C09_at_most_32`):
Gold's pieces occupy exactly bits `48 .. 48 + min k 16 - 1`, the occupied squares are those plus
bits `0 .. k - 16 - 1` (Silver's), the six type boards are pairwise disjoint with union `all`, and
square number `j` of the placement order holds a piece of the type chosen at placement `j`
(and of no other type) — so nothing but the chosen squares ever changes. -/
theorem C09_board_shape {ps : List Piece} {s : GameState} (hr : SetupRun ps s) :
    (∀ i, i < 64 → (bit s.board.all i = true ↔
        (48 ≤ i ∧ i < 48 + min ps.length 16) ∨ i < ps.length - 16)) ∧
    (∀ i, i < 64 → (bit s.board.p1 i = true ↔ 48 ≤ i ∧ i < 48 + min ps.length 16)) ∧
    s.board.all = s.board.elephants ||| s.board.camels ||| s.board.horses ||| s.board.dogs
      ||| s.board.cats ||| s.board.rabbits ∧
    (∀ t u, t ≠ u → s.board.typeBits t &&& s.board.typeBits u = 0) ∧
    (∀ j t, j < ps.length →
      bit (s.board.typeBits t) (placementSquare j) = decide (ps[j]? = some t)) := by
  have hb := (setupRun_board hr).shape
  exact ⟨hb.all_iff, hb.p1_iff, hb.union, hb.disjoint,
    fun j t hj => (setupRun_board hr).contents j t (Nat.lt_of_lt_of_le hj (setupRun_length_le hr))⟩

/-- `placement_bit` of a setup state after `k` placements is the single bit of
`placementSquare k`; `Square::from_bit_board` of it is that square; the square is on the board and
empty, and every earlier square of the placement order is occupied (it is the *next free* one). -/
theorem C09_placement_bit {k : Nat} {s : GameState} (h : SetupShape k s) :
    s.board.placementBit = sqBit (placementSquare k) ∧
    sqOfBit s.board.placementBit = placementSquare k ∧
    placementSquare k < 64 ∧
    bit s.board.all (placementSquare k) = false ∧
    (∀ j, j < k → bit s.board.all (placementSquare j) = true) :=
  ⟨h.board.placementBit_eq h.lt, h.board.sqOfBit_placementBit h.lt, placementSquare_lt k h.lt,
    h.board.all_next h.lt, fun _ hj => h.board.all_prev (Nat.le_of_lt h.lt) hj⟩

/-- Effect of one placement at a setup state after `k` placements: the square `placementSquare k`
was empty; the type board of the chosen piece gains exactly that bit and the other five type
boards are unchanged; `p1_pieces` gains the bit iff Gold is the mover; `all_pieces` gains the bit;
nothing else changes on any of the eight boards.  In the code's own queries: the new square holds
a piece of type `p` (`piece_type_at_square`) owned by the mover. -/
theorem C09_place_effect {k : Nat} {s : GameState} (h : SetupShape k s) (p : Piece) :
    bit s.board.all (placementSquare k) = false ∧
    (∀ t, (s.takeAction (.place p)).board.typeBits t =
      if t = p then s.board.typeBits t ||| sqBit (placementSquare k) else s.board.typeBits t) ∧
    (s.takeAction (.place p)).board.p1 =
      (if s.p1Turn then s.board.p1 ||| sqBit (placementSquare k) else s.board.p1) ∧
    (s.takeAction (.place p)).board.all = s.board.all ||| sqBit (placementSquare k) ∧
    (s.takeAction (.place p)).board.pieceTypeAtSquare (placementSquare k) = some p ∧
    bit (s.takeAction (.place p)).board.p1 (placementSquare k) = s.p1Turn := by
  have hq := placementSquare_lt k h.lt
  have hpb := h.board.placementBit_eq h.lt
  have hfree := h.board.all_next h.lt
  -- the new board represents the old cells with the mover's `p` on the new square
  have hb' := Rep.place h.board.wf.rep hq hpb ((absBoard_eq_none_iff _ h.board.wf _).mpr hfree) p
  obtain ⟨t, ht, htp, hg⟩ := typeAt_of_abs _ _ _ ((congrFun hb'.abs _).trans (if_pos rfl))
  simp only [takeAction_place]
  refine ⟨hfree, fun t => by rw [place_typeBits, hpb], ?_, by rw [place_all s p h.board.union, hpb], ?_, hg.symm⟩
  · rw [place_p1, hpb]
    cases s.p1Turn
    · exact BitVec.or_zero
    · rfl
  · rw [pieceTypeAtSquare_eq _ hb'.wf _ hq, ht, toSpec_injective _ _ htp]

/-- The hash update of a placement uses exactly that square, the mover's colour, and the two
hand-over flags "Gold's last square" (`k = 15`) and "Silver's last square" (`k = 31`). -/
theorem C09_place_hash {k : Nat} {s : GameState} (h : SetupShape k s) (p : Piece) :
    (s.takeAction (.place p)).hash =
      zPlacePiece s.hash p (placementSquare k) s.p1Turn (decide (k = 15)) (decide (k = 31)) :=
  place_hash_eq h.board h.lt p

/-- An offered placement leads from "setup state after `k` placements" to "setup state after
`k + 1` placements" (as long as the setup is not finished by it). -/
theorem C09_place_shape {k : Nat} {s : GameState} (h : SetupShape k s) (hk : k + 1 < 32)
    (p : Piece) (hv : Action.place p ∈ s.validActions) :
    SetupShape (k + 1) (s.takeAction (.place p)) := by
  rw [validActions_eq_validPlacement s h.phase, mem_validPlacement] at hv
  exact h.place hk p hv

/-- In the place phase the offered actions are exactly `Place(t)` for the piece types `t`, in the
order elephant, camel, horse, dog, cat, rabbit, of which the mover has fewer than the full
complement (1, 1, 2, 2, 2, 8) on the board. -/
theorem C09_offered (s : GameState) (hph : s.phase = .place) :
    s.validActions =
      (([.elephant, .camel, .horse, .dog, .cat, .rabbit] : List Piece).filter
        (fun t => decide (moverCount s t < complement t))).map Action.place := by
  rw [validActions_eq_validPlacement s hph, validPlacement_eq]; rfl

/-- The same along a game: after the offered placements `ps` (fewer than 32) the offered actions
are exactly `Place(t)` for the types `t` that the mover has placed fewer times than the full
complement — the number of `t` among the mover's own placements so far. -/
theorem C09_offered_history {ps : List Piece} {s : GameState} (hr : SetupRun ps s)
    (hk : ps.length < 32) :
    s.validActions =
      (([.elephant, .camel, .horse, .dog, .cat, .rabbit] : List Piece).filter
        (fun t => decide ((moverPlaced ps).count t < complement t))).map Action.place := by
  rw [C09_offered s (setupRun_shape hr hk).phase]
  congr 2
  funext t
  rw [setupRun_moverCount hr hk t]

/-- During setup something is always offered, and every offered action is a placement of a type
the mover has not yet completed. -/
theorem C09_offered_nonempty {k : Nat} {s : GameState} (h : SetupShape k s) :
    s.validActions ≠ [] ∧
    (∀ a, a ∈ s.validActions → ∃ p, a = Action.place p ∧ moverCount s p < complement p) ∧
    (∀ p, Action.place p ∈ s.validActions ↔ moverCount s p < complement p) := by
  rw [validActions_eq_validPlacement s h.phase]
  refine ⟨?_, ?_, mem_validPlacement s⟩
  · obtain ⟨t, ht⟩ := h.exists_offered
    exact List.ne_nil_of_mem ((mem_validPlacement s t).mpr ht)
  · intro a ha
    obtain ⟨p, rfl⟩ := GameState.eq_place_of_mem_validPlacement s a ha
    exact ⟨p, rfl, (mem_validPlacement s p).mp ha⟩

/-- Hand-over.  At a setup state after `k` placements, placing a piece:
* `k = 15` (Gold's sixteenth): Gold was on move, now Silver is, still place phase, move number 1;
* `k = 31` (Silver's sixteenth): Silver was on move, now Gold is, move number 2, and the phase is
  the play phase at step 0 (no earlier boards of this turn), nothing pending, the repetition
  history holding just the new hash, which is also the turn's initial hash;
* otherwise the side to move does not change, the phase stays place and the move number 1. -/
theorem C09_handover {k : Nat} {s : GameState} (h : SetupShape k s) (p : Piece) :
    (k = 15 → s.p1Turn = true ∧ (s.takeAction (.place p)).p1Turn = false ∧
      (s.takeAction (.place p)).phase = .place ∧ (s.takeAction (.place p)).moveNo = 1) ∧
    (k = 31 → s.p1Turn = false ∧ (s.takeAction (.place p)).p1Turn = true ∧
      (s.takeAction (.place p)).moveNo = 2 ∧
      ∃ pp, (s.takeAction (.place p)).phase = .play pp ∧ pp.step = 0 ∧ pp.prev = [] ∧
        pp.pps = .none ∧ pp.hist = [(s.takeAction (.place p)).hash] ∧
        pp.initHash = (s.takeAction (.place p)).hash ∧ pp.trapped = false) ∧
    (k ≠ 15 → k ≠ 31 → (s.takeAction (.place p)).p1Turn = s.p1Turn ∧
      (s.takeAction (.place p)).phase = .place ∧ (s.takeAction (.place p)).moveNo = 1) := by
  obtain ⟨ht, hm, hp⟩ := place_clock h.board h.lt h.turn p
  have hturn := h.turn
  simp only [takeAction_place]
  refine ⟨?_, ?_, ?_⟩
  · intro hk; subst hk
    exact ⟨hturn, ht, hp, hm⟩
  · intro hk; subst hk
    exact ⟨hturn, ht, hm, _, hp, rfl, rfl, rfl, rfl, rfl, rfl⟩
  · intro h15 h31
    rw [if_neg (by omega)] at hm hp
    exact ⟨ht.trans (hturn.trans (decide_eq_decide.mpr (by omega))).symm, hp, hm⟩

/-- Reachability: after any list `ps` of fewer than 32 offered placements from the initial state
the state is a setup state after `ps.length` placements, the mover's on-board counts are the counts of
the mover's own placements, and `placement_bit` is a single bit `sqBit q` of an on-board empty square
(two of the six clauses of `PlaceReady`, which the hash of a placement needs; `placeReady_of_shape`,
Lemmas/SetupStart.lean, gives all six). -/
theorem C09_reachable {ps : List Piece} {s : GameState} (hr : SetupRun ps s)
    (hk : ps.length < 32) :
    SetupShape ps.length s ∧
    (∀ t, moverCount s t = (moverPlaced ps).count t) ∧
    (∃ q, q = placementSquare ps.length ∧ q < 64 ∧ s.board.placementBit = sqBit q ∧
      bit s.board.all q = false) := by
  have hs := setupRun_shape hr hk
  obtain ⟨h1, _, h3, h4, _⟩ := C09_placement_bit hs
  exact ⟨hs, setupRun_moverCount hr hk, _, rfl, h3, h1, h4⟩

/-- After the thirty-second offered placement: the play phase has begun with Gold to move, move
number 2, step 0, nothing pending, history = [hash]; Gold's sixteen placements and Silver's
sixteen placements were each exactly one full army (1 elephant, 1 camel, 2 horses, 2 dogs,
2 cats, 8 rabbits). -/
theorem C09_reachable_play {ps : List Piece} {s : GameState} (hr : SetupRun ps s)
    (h32 : ps.length = 32) :
    s.p1Turn = true ∧ s.moveNo = 2 ∧
    (∃ pp, s.phase = .play pp ∧ pp.step = 0 ∧ pp.pps = .none ∧ pp.hist = [s.hash] ∧
      pp.initHash = s.hash) ∧
    (∀ t, (ps.take 16).count t = complement t) ∧
    (∀ t, (ps.drop 16).count t = complement t) := by
  obtain ⟨ht, hm, hp⟩ := setupRun_final hr h32
  exact ⟨ht, hm, ⟨_, hp, rfl, rfl, rfl, rfl⟩, setupRun_gold_army hr (by omega),
    setupRun_silver_army hr h32⟩

/-- Gold's army is complete as soon as Silver is on move (`16 ≤ ps.length`). -/
theorem C09_gold_army {ps : List Piece} {s : GameState} (hr : SetupRun ps s)
    (h16 : 16 ≤ ps.length) : ∀ t, (ps.take 16).count t = complement t :=
  setupRun_gold_army hr h16

example : SetupShape 0 GameState.initial := setupRun_shape SetupRun.init (by decide)

/-- `C09_reachable` applies with `ps = []` -/
example : SetupRun [] GameState.initial := SetupRun.init

/-- a concrete complete setup (`exampleOrder`: rabbits in front for Gold, majors first for Silver)
is offered step by step by the model … -/
example : ∃ s, SetupRun exampleOrder s ∧ exampleOrder.length = 32 := exampleOrder_run

/-- … so the hypotheses of `C09_reachable_play` are satisfiable … -/
example : ∃ s : GameState, s.p1Turn = true ∧ s.moveNo = 2 ∧ ∃ pp, s.phase = .play pp := by
  obtain ⟨s, hr, h32⟩ := exampleOrder_run
  obtain ⟨h1, h2, ⟨pp, h3, _⟩, _⟩ := C09_reachable_play hr h32
  exact ⟨s, h1, h2, pp, h3⟩

/-- … and direct evaluation of the model agrees: move number 2, Gold to move, both sides' home ranks full. -/
example : ((exampleOrder.foldl (fun s p => s.takeAction (.place p)) GameState.initial).moveNo = 2
    ∧ (exampleOrder.foldl (fun s p => s.takeAction (.place p)) GameState.initial).p1Turn = true
    ∧ (exampleOrder.foldl (fun s p => s.takeAction (.place p)) GameState.initial).board.p1
        = 0xffff000000000000#64
    ∧ (exampleOrder.foldl (fun s p => s.takeAction (.place p)) GameState.initial).board.all
        = 0xffff00000000ffff#64) := by decide +kernel

/-- setup states after 15 and after 31 placements exist (hypotheses of `C09_handover`) -/
example : (∃ s, SetupShape 15 s) ∧ (∃ s, SetupShape 31 s) := by
  obtain ⟨s15, r15⟩ := (setupRun_iff (exampleOrder.take 15)).mpr
    ⟨by decide, fun g t => by cases g <;> cases t <;> decide⟩
  obtain ⟨s31, r31⟩ := (setupRun_iff (exampleOrder.take 31)).mpr
    ⟨by decide, fun g t => by cases g <;> cases t <;> decide⟩
  exact ⟨⟨s15, setupRun_shape r15 (by decide)⟩, ⟨s31, setupRun_shape r31 (by decide)⟩⟩

end Arimaa
