-- GENERATED by /verif/tools/gen.py -- do not edit.  Bridge from the current text of `GameState::can_pass` to the baseline text.
import Arimaa.Gen.Rs
import Arimaa.Gen.RsBase
import Arimaa.Gen.BridgeLadder
import Arimaa.Gen.Bridge.GameState_as_play_phase
import Arimaa.Gen.Bridge.GameState_unwrap_play_phase
import Arimaa.Gen.Bridge.PlayPhase_step
import Arimaa.Gen.Bridge.PushPullState_is_must_complete_push
import Arimaa.Gen.Bridge.Zobrist_exclude_step
import Arimaa.Gen.Bridge.Zobrist_pass
import Arimaa.Gen.Bridge.hash_history_contains_hash_twice

namespace Arimaa.Gen.Bridge
open Arimaa Arimaa.Gen Arimaa.Rt

set_option maxHeartbeats 1000000 in
theorem bridge_GameState_can_pass : @Rs.GameState_can_pass = @RsBase.GameState_can_pass := by
  funext a0 a1
  rs_ladder [Rs.GameState_can_pass, RsBase.GameState_can_pass, bridge_GameState_as_play_phase, bridge_GameState_unwrap_play_phase, bridge_PlayPhase_step, bridge_PushPullState_is_must_complete_push, bridge_Zobrist_exclude_step, bridge_Zobrist_pass, bridge_hash_history_contains_hash_twice] [RsBase.GameState_as_play_phase, RsBase.GameState_unwrap_play_phase, RsBase.PlayPhase_step, RsBase.PushPullState_is_must_complete_push, RsBase.Zobrist_exclude_step, RsBase.Zobrist_pass, RsBase.hash_history_contains_hash_twice] (cases a1) [Rs.GameState_can_pass, RsBase.GameState_can_pass, Rs.GameState_as_play_phase, Rs.GameState_unwrap_play_phase, Rs.PlayPhase_step, Rs.PushPullState_is_must_complete_push, Rs.Zobrist_exclude_step, Rs.Zobrist_pass, Rs.hash_history_contains_hash_twice, RsBase.GameState_as_play_phase, RsBase.GameState_unwrap_play_phase, RsBase.PlayPhase_step, RsBase.PushPullState_is_must_complete_push, RsBase.Zobrist_exclude_step, RsBase.Zobrist_pass, RsBase.hash_history_contains_hash_twice]

end Arimaa.Gen.Bridge
