import Arimaa.Lemmas.Enabled

/-!
No action is listed twice in the rule-only list.
-/
namespace Arimaa
open Gen Spec GameState

theorem flatMap_dirs_nodup_of_dir (f : Dir → List Action) (hf : ∀ d, (f d).Nodup)
    (hdir : ∀ d, ∀ a ∈ f d, ∃ sq, a = .move sq d) : (Dir_ALL.flatMap f).Nodup := by
  unfold List.Nodup
  rw [List.pairwise_flatMap]
  refine ⟨fun d _ => hf d, ?_⟩
  have hd : Dir_ALL.Pairwise (· ≠ ·) := Dir_ALL_nodup
  refine hd.imp ?_
  intro d d' hne x hx y hy hxy
  obtain ⟨_, rfl⟩ := hdir d x hx
  obtain ⟨_, h2⟩ := hdir d' y hy
  rw [← hxy] at h2
  cases h2
  exact hne rfl

theorem flatMap_dirs_nodup (f : Dir → List Nat) (hf : ∀ d, (f d).Nodup) :
    (Dir_ALL.flatMap fun d => (f d).map (fun s => Action.move s d)).Nodup :=
  flatMap_dirs_nodup_of_dir _
    (fun d => List.pairwise_map.mpr ((hf d).imp fun hne h => hne (by cases h; rfl)))
    (fun d a ha => by obtain ⟨sq, _, rfl⟩ := List.mem_map.mp ha; exact ⟨sq, rfl⟩)

theorem ownMoves_nodup (s : GameState) (b : Board) : (s.ownMoves b).Nodup := by
  unfold ownMoves
  exact flatMap_dirs_nodup _ (fun _ => squaresOf_nodup _)

theorem pushActions_nodup (s : GameState) (pp : PlayPhase) (b : Board) : (s.pushActions pp b).Nodup := by
  simp only [pushActions]
  split
  · split
    · exact flatMap_dirs_nodup _ (fun _ => squaresOf_nodup _)
    · exact List.nodup_nil
  · exact List.nodup_nil

theorem pullExtend_nodup (s : GameState) (pp : PlayPhase) (b : Board) (acc : List Action)
    (h : acc.Nodup) : (s.pullExtend pp b acc).Nodup := by
  unfold pullExtend
  split
  · exact nodup_foldl_addIfNew _ _ _ _ h
  · exact h

theorem mustCompletePushActions_nodup (s : GameState) (pp : PlayPhase) (b : Board) :
    (s.mustCompletePushActions pp b).Nodup := by
  simp only [mustCompletePushActions]
  split
  · apply flatMap_dirs_nodup_of_dir
    · intro d; split <;> simp
    · intro d a ha
      split at ha
      · exact ⟨_, List.mem_singleton.mp ha⟩
      · cases ha
  · exact List.nodup_nil

/-- The list is pushes/pulls, then own steps, then possibly the pass (or the completions of a
pending push alone).  Each part is duplicate-free; an own step is never also a push or pull
(it moves a piece of the mover, they move an enemy piece); the pass is no step. -/
theorem validActionsNoRep_nodup (s : GameState) (pp : PlayPhase) (h : PlayInv s pp) :
    s.validActionsNoRep.Nodup := by
  rw [validActionsNoRep_play s pp h.phase, List.nodup_append]
  refine ⟨?_, by unfold passList; cases s.canPass false <;> simp, ?_⟩
  · unfold moveList
    cases pp.pps.isMustCompletePush
    · unfold stepList
      rw [if_neg Bool.false_ne_true, List.nodup_append]
      refine ⟨pullExtend_nodup s pp s.board _ (pushActions_nodup s pp s.board), ownMoves_nodup s s.board, ?_⟩
      intro a ha b hb e
      subst e
      have hmv := isMove_of_mem_ownMoves s s.board a hb
      obtain ⟨i, d, rfl⟩ := (Action.isMove_iff a).mp hmv
      obtain ⟨hi, hos⟩ := (ownMoves_iff s s.board h.wf i d).mp hb
      obtain ⟨hps, hpe⟩ := ownStep_not_enemy _ _ pp.step (absPend pp.pps) _ _ hos
      rw [mem_pullExtend] at ha
      rcases ha with ha | ha
      · have := ((pushActions_iff s pp s.board h.wf i d).mp ha).2.2
        rw [hps] at this; cases this
      · have := ((pullExtend_iff s pp s.board h.wf h.pend i d).mp ha).2
        rw [hpe] at this; cases this
    · exact mustCompletePushActions_nodup s pp s.board
  · intro a ha b hb e
    subst e
    rw [((mem_passList s false a).mp hb).1] at ha
    cases isMove_of_mem_moveList s pp _ ha

end Arimaa
