-- GENERATED by /verif/tools/gen.py -- do not edit.  Bridge from the current text of `convert_piece_to_letter` to the baseline text.
import Arimaa.Gen.Rs
import Arimaa.Gen.RsBase
import Arimaa.Gen.BridgeLadder

namespace Arimaa.Gen.Bridge
open Arimaa Arimaa.Gen Arimaa.Rt

set_option maxHeartbeats 1000000 in
theorem bridge_convert_piece_to_letter : @Rs.convert_piece_to_letter = @RsBase.convert_piece_to_letter := by
  funext a0 a1
  rs_ladder [Rs.convert_piece_to_letter, RsBase.convert_piece_to_letter] [] (cases a0 <;> cases a1) [Rs.convert_piece_to_letter, RsBase.convert_piece_to_letter]

end Arimaa.Gen.Bridge
