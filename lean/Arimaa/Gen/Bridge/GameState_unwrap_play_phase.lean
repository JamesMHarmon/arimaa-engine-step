-- GENERATED by /verif/tools/gen.py -- do not edit.  Bridge from the current text of `GameState::unwrap_play_phase` to the baseline text.
import Arimaa.Gen.Rs
import Arimaa.Gen.RsBase
import Arimaa.Gen.BridgeLadder
import Arimaa.Gen.Bridge.GameState_as_play_phase

namespace Arimaa.Gen.Bridge
open Arimaa Arimaa.Gen Arimaa.Rt

set_option maxHeartbeats 1000000 in
theorem bridge_GameState_unwrap_play_phase : @Rs.GameState_unwrap_play_phase = @RsBase.GameState_unwrap_play_phase := by
  funext a0
  rs_ladder [Rs.GameState_unwrap_play_phase, RsBase.GameState_unwrap_play_phase, bridge_GameState_as_play_phase] [RsBase.GameState_as_play_phase] (skip) [Rs.GameState_unwrap_play_phase, RsBase.GameState_unwrap_play_phase, Rs.GameState_as_play_phase, RsBase.GameState_as_play_phase]

end Arimaa.Gen.Bridge
