-- GENERATED by /verif/tools/gen.py -- do not edit.  Bridge from the current text of `GameState::extend_with_pull_piece_actions` to the baseline text.
import Arimaa.Gen.Rs
import Arimaa.Gen.RsBase
import Arimaa.Gen.BridgeLadder
import Arimaa.Gen.Bridge.GameState_as_play_phase
import Arimaa.Gen.Bridge.GameState_lesser_pieces
import Arimaa.Gen.Bridge.GameState_opponent_piece_mask
import Arimaa.Gen.Bridge.PushPullState_as_possible_pull
import Arimaa.Gen.Bridge.shift_pieces_in_direction
import Arimaa.Gen.Bridge.shift_pieces_in_opp_direction

namespace Arimaa.Gen.Bridge
open Arimaa Arimaa.Gen Arimaa.Rt

set_option maxHeartbeats 1000000 in
theorem bridge_GameState_extend_with_pull_piece_actions : @Rs.GameState_extend_with_pull_piece_actions = @RsBase.GameState_extend_with_pull_piece_actions := by
  funext a0 a1 a2
  rs_ladder [Rs.GameState_extend_with_pull_piece_actions, RsBase.GameState_extend_with_pull_piece_actions, bridge_GameState_as_play_phase, bridge_GameState_lesser_pieces, bridge_GameState_opponent_piece_mask, bridge_PushPullState_as_possible_pull, bridge_shift_pieces_in_direction, bridge_shift_pieces_in_opp_direction] [RsBase.GameState_as_play_phase, RsBase.GameState_lesser_pieces, RsBase.GameState_opponent_piece_mask, RsBase.PushPullState_as_possible_pull, RsBase.shift_pieces_in_direction, RsBase.shift_pieces_in_opp_direction] (skip) [Rs.GameState_extend_with_pull_piece_actions, RsBase.GameState_extend_with_pull_piece_actions, Rs.GameState_as_play_phase, Rs.GameState_lesser_pieces, Rs.GameState_opponent_piece_mask, Rs.PushPullState_as_possible_pull, Rs.shift_pieces_in_direction, Rs.shift_pieces_in_opp_direction, RsBase.GameState_as_play_phase, RsBase.GameState_lesser_pieces, RsBase.GameState_opponent_piece_mask, RsBase.PushPullState_as_possible_pull, RsBase.shift_pieces_in_direction, RsBase.shift_pieces_in_opp_direction]

end Arimaa.Gen.Bridge
