-- GENERATED by /verif/tools/gen.py -- do not edit.  Bridge from the current text of `GameState::is_play_phase` to the baseline text.
import Arimaa.Gen.Rs
import Arimaa.Gen.RsBase
import Arimaa.Gen.BridgeLadder

namespace Arimaa.Gen.Bridge
open Arimaa Arimaa.Gen Arimaa.Rt

set_option maxHeartbeats 1000000 in
theorem bridge_GameState_is_play_phase : @Rs.GameState_is_play_phase = @RsBase.GameState_is_play_phase := by
  funext a0
  rs_ladder [Rs.GameState_is_play_phase, RsBase.GameState_is_play_phase] [] (skip) [Rs.GameState_is_play_phase, RsBase.GameState_is_play_phase]

end Arimaa.Gen.Bridge
