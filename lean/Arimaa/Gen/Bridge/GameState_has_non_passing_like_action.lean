-- GENERATED by /verif/tools/gen.py -- do not edit.  Bridge from the current text of `GameState::has_non_passing_like_action` to the baseline text.
import Arimaa.Gen.Rs
import Arimaa.Gen.RsBase
import Arimaa.Gen.BridgeLadder
import Arimaa.Gen.Bridge.GameState_is_passing_like_action
import Arimaa.Gen.Bridge.GameState_unwrap_play_phase
import Arimaa.Gen.Bridge.PlayPhase_step

namespace Arimaa.Gen.Bridge
open Arimaa Arimaa.Gen Arimaa.Rt

set_option maxHeartbeats 1000000 in
theorem bridge_GameState_has_non_passing_like_action : @Rs.GameState_has_non_passing_like_action = @RsBase.GameState_has_non_passing_like_action := by
  funext a0 a1
  rs_ladder [Rs.GameState_has_non_passing_like_action, RsBase.GameState_has_non_passing_like_action, bridge_GameState_is_passing_like_action, bridge_GameState_unwrap_play_phase, bridge_PlayPhase_step] [RsBase.GameState_is_passing_like_action, RsBase.GameState_unwrap_play_phase, RsBase.PlayPhase_step]

end Arimaa.Gen.Bridge
