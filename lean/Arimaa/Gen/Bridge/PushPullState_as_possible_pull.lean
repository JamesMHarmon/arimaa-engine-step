-- GENERATED by /verif/tools/gen.py -- do not edit.  Bridge from the current text of `PushPullState::as_possible_pull` to the baseline text.
import Arimaa.Gen.Rs
import Arimaa.Gen.RsBase
import Arimaa.Gen.BridgeLadder

namespace Arimaa.Gen.Bridge
open Arimaa Arimaa.Gen Arimaa.Rt

set_option maxHeartbeats 1000000 in
theorem bridge_PushPullState_as_possible_pull : @Rs.PushPullState_as_possible_pull = @RsBase.PushPullState_as_possible_pull := by
  funext a0
  rs_ladder [Rs.PushPullState_as_possible_pull, RsBase.PushPullState_as_possible_pull] [] (skip) [Rs.PushPullState_as_possible_pull, RsBase.PushPullState_as_possible_pull]

end Arimaa.Gen.Bridge
