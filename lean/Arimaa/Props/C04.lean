import Arimaa.Lemmas.Result

/-!
# C04 — at turn start the reported result follows the official win-condition order

Property text: for every position at the start of a turn the reported result is: the player who
just moved wins if one of their rabbits stands on its goal rank; otherwise the player to move wins
if one of theirs does; otherwise the player who just moved wins if the player to move has no
rabbits; otherwise the player to move wins if the other side has none; otherwise the player to move
loses if they have no legal step; otherwise the game is not over.  A rabbit touching the goal rank,
or a side losing its last rabbit, in the middle of a turn or during setup does not by itself end
the game.

The six-line decision list is `Spec.result`, with its own goal ranks and with
`hasStep` = some step enabled at step 0 with nothing pending.  "Start of a turn" is `step = 0`; the
status is then `none` (`TurnInv`, proved along every action list in C03).
-/
namespace Arimaa
open GameState Gen Spec

/-- **Goal-rank masks.**  The generated masks are exactly the specification's goal ranks: Gold's
mask is rank 8 (squares 0..7, a8..h8), Silver's mask is rank 1 (squares 56..63, a1..h1 — all eight
of them). -/
theorem C04_goal_masks (i : Nat) (h : i < 64) :
    bit P1_OBJECTIVE_MASK i = onGoalRank true i ∧ bit P2_OBJECTIVE_MASK i = onGoalRank false i :=
  ⟨goal_bit true i h, goal_bit false i h⟩

/-- **The four board tests.**  On a well-formed board the code's bit tests are the specification's
predicates: "Gold has a rabbit on rank 8", "Silver has a rabbit on rank 1", "Gold has no rabbit",
"Silver has no rabbit". -/
theorem C04_board_tests (b : Board) (hw : WF b) :
    (((b.p1 &&& b.rabbits &&& P1_OBJECTIVE_MASK) != 0) = rabbitOnGoal (absBoard b) true) ∧
    (((~~~b.p1 &&& b.rabbits &&& P2_OBJECTIVE_MASK) != 0) = rabbitOnGoal (absBoard b) false) ∧
    (((b.p1 &&& b.rabbits) == 0) = !hasRabbit (absBoard b) true) ∧
    (((~~~b.p1 &&& b.rabbits) == 0) = !hasRabbit (absBoard b) false) :=
  ⟨goalTest_eq b hw true, goalTest_eq b hw false, lostTest_eq b hw true, lostTest_eq b hw false⟩

/-- **Goal test, last mover first.**  `rabbitAtGoal` reports a win of the player who just moved
(`!p1Turn`) if that player has a rabbit on its goal rank, otherwise a win of the player to move if
that one has, otherwise nothing (lines 1–2 of the list). -/
theorem C04_rabbit_at_goal (s : GameState) (b : Board) (hw : WF b) :
    s.rabbitAtGoal b =
      if rabbitOnGoal (absBoard b) (!s.p1Turn) then some (terminalOf (win (!s.p1Turn)))
      else if rabbitOnGoal (absBoard b) s.p1Turn then some (terminalOf (win s.p1Turn))
      else none :=
  rabbitAtGoal_eq s b hw

/-- **Elimination test.**  `lostAllRabbits` reports a win of the player who just moved if the
player to move has no rabbit, otherwise a win of the player to move if the other side has none,
otherwise nothing (lines 3–4 of the list). -/
theorem C04_lost_all_rabbits (s : GameState) (b : Board) (hw : WF b) :
    s.lostAllRabbits b =
      if !hasRabbit (absBoard b) s.p1Turn then some (terminalOf (win (!s.p1Turn)))
      else if !hasRabbit (absBoard b) (!s.p1Turn) then some (terminalOf (win s.p1Turn))
      else none :=
  lostAllRabbits_eq s b hw

/-- **Immobilisation test at turn start.**  At step 0 with no pending status, `hasMove` says
"there is a move" exactly when the specification gives the player to move some step; otherwise it
reports a loss for the player to move (line 5 of the list). -/
theorem C04_has_move_turn_start (s : GameState) (pp : PlayPhase) (hph : s.phase = .play pp)
    (hw : WF s.board) (h0 : pp.step = 0) (hpps : pp.pps = .none) :
    (s.hasMove s.board = none ↔ hasStep (absBoard s.board) s.p1Turn = true) ∧
    (s.hasMove s.board =
      if !hasStep (absBoard s.board) s.p1Turn then some (terminalOf (win (!s.p1Turn))) else none) :=
  ⟨by rw [hasMove_step0_eq s pp hph hw h0 hpps]; cases hasStep (absBoard s.board) s.p1Turn <;> simp,
    hasMove_step0_eq s pp hph hw h0 hpps⟩

/-- **Result at the start of a turn.**  For every play-phase state with a well-formed board at
step 0 (status `none`), the reported result is the specification's six-line decision list
evaluated on the abstract board with the side to move. -/
theorem C04_turn_start (s : GameState) (pp : PlayPhase) (hph : s.phase = .play pp)
    (hw : WF s.board) (h0 : pp.step = 0) (hpps : pp.pps = .none) :
    s.isTerminal = (Spec.result (absBoard s.board) s.p1Turn).map terminalOf :=
  isTerminal_step0_eq s pp hph hw h0 hpps

/-- `C04_turn_start` read in the other direction: the reported result, renamed into the
specification's result type, equals `Spec.result`. -/
theorem C04_turn_start_spec (s : GameState) (pp : PlayPhase) (hph : s.phase = .play pp)
    (hw : WF s.board) (h0 : pp.step = 0) (hpps : pp.pps = .none) :
    s.isTerminal.map toSpecResult = Spec.result (absBoard s.board) s.p1Turn := by
  rw [C04_turn_start s pp hph hw h0 hpps, map_toSpecResult_map_terminalOf]

/-- `C04_turn_start` with the status hypothesis supplied by the turn invariant (`TurnInv` holds in
every state reached from the initial state or a parsed position: `turnInv_run`, C03). -/
theorem C04_turn_start_inv (s : GameState) (pp : PlayPhase) (hph : s.phase = .play pp)
    (hw : WF s.board) (hinv : TurnInv s) (h0 : pp.step = 0) :
    s.isTerminal = (Spec.result (absBoard s.board) s.p1Turn).map terminalOf := by
  exact C04_turn_start s pp hph hw h0 ((hinv.play hph).2 h0).1

/-- **Over reachable play-phase states.**  Start from any play-phase state `s0` with a well-formed
board whose status names an empty square (`PlayInv`) and which satisfies the turn invariant (both
hold for every successfully parsed position and for the first play state after setup).  Every
state `s` reached from it by offered actions (`OfferedRun`, closed even under the rule-only list)
that stands at the start of a turn reports exactly `Spec.result` of its board and side to move —
no hypothesis on `s` itself. -/
theorem C04_turn_start_reachable (s0 : GameState) (pp0 : PlayPhase) (hinv0 : PlayInv s0 pp0)
    (ht0 : TurnInv s0) (s : GameState) (hr : OfferedRun s0 s) (pp : PlayPhase)
    (hph : s.phase = .play pp) (h0 : pp.step = 0) :
    s.isTerminal = (Spec.result (absBoard s.board) s.p1Turn).map terminalOf := by
  obtain ⟨as, ho, rfl⟩ := (offeredRun_iff s0 s).mp hr
  obtain ⟨_, hpi⟩ := playInv_run s0 pp0 hinv0 as ho
  exact C04_turn_start_inv _ pp hph hpi.wf (turnInv_run s0 as ht0) h0

/-- The six lines of the property spelled out one by one (`m` = side to move is Gold iff `p1Turn`;
`win g` is "Gold wins" iff `g`). -/
theorem C04_turn_start_lines (s : GameState) (pp : PlayPhase) (hph : s.phase = .play pp)
    (hw : WF s.board) (h0 : pp.step = 0) (hpps : pp.pps = .none) :
    let b := absBoard s.board
    let m := s.p1Turn
    let l := !s.p1Turn
    (rabbitOnGoal b l = true → s.isTerminal = some (terminalOf (win l))) ∧
    (rabbitOnGoal b l = false → rabbitOnGoal b m = true →
      s.isTerminal = some (terminalOf (win m))) ∧
    (rabbitOnGoal b l = false → rabbitOnGoal b m = false → hasRabbit b m = false →
      s.isTerminal = some (terminalOf (win l))) ∧
    (rabbitOnGoal b l = false → rabbitOnGoal b m = false → hasRabbit b m = true →
      hasRabbit b l = false → s.isTerminal = some (terminalOf (win m))) ∧
    (rabbitOnGoal b l = false → rabbitOnGoal b m = false → hasRabbit b m = true →
      hasRabbit b l = true → hasStep b m = false → s.isTerminal = some (terminalOf (win l))) ∧
    (rabbitOnGoal b l = false → rabbitOnGoal b m = false → hasRabbit b m = true →
      hasRabbit b l = true → hasStep b m = true → s.isTerminal = none) := by
  intro b m l
  rw [C04_turn_start s pp hph hw h0 hpps]
  unfold Spec.result
  refine ⟨?_, ?_, ?_, ?_, ?_, ?_⟩ <;> intros <;> simp_all [b, m, l]

/-- **Middle of a turn: only the action list matters.**  At steps 1..3 the reported result is
`hasMove` and nothing else: a result is reported iff the offered list is empty, and it is then a
loss for the player on move. -/
theorem C04_mid_turn (s : GameState) (pp : PlayPhase) (hph : s.phase = .play pp)
    (hpos : pp.step > 0) (h3 : pp.step ≤ 3) :
    s.isTerminal = s.hasMove s.board ∧
    s.isTerminal =
      if s.validActions.isEmpty then some (terminalOf (win (!s.p1Turn))) else none := by
  refine ⟨isTerminal_mid_turn s pp hph hpos, ?_⟩
  rw [isTerminal_mid_turn_eq s pp hph hpos h3]
  cases s.validActions <;> cases s.p1Turn <;> rfl

/-- **Goal rabbits and lost rabbits are not consulted mid-turn.**  Whatever the board contains —
a rabbit on a goal rank, a side without rabbits — a mid-turn state with a non-empty offered list
reports no result. -/
theorem C04_mid_turn_ignores_goal (s : GameState) (pp : PlayPhase) (hph : s.phase = .play pp)
    (hpos : pp.step > 0) (h3 : pp.step ≤ 3) (hne : s.validActions ≠ []) :
    s.isTerminal = none := by
  rw [isTerminal_mid_turn s pp hph hpos]
  exact (validActions_ne_nil_iff s pp hph h3).1 hne

/-- **Setup.**  In the place phase no result is reported, whatever the board contains. -/
theorem C04_setup (s : GameState) (hph : s.phase = .place) : s.isTerminal = none := by
  simp [isTerminal, hph]

def exState_C04 (gold : Bool) (b : Board) : GameState :=
  { p1Turn := gold, moveNo := 2, phase := .play (PlayPhase.initial 0 []), board := b, hash := 0 }

/-- the same in the middle of a turn: one step made (`step` is `prev.length`) -/
def exMid_C04 (gold : Bool) (b : Board) : GameState :=
  { p1Turn := gold, moveNo := 2,
    phase := .play { PlayPhase.initial 0 [] with prev := [Board.empty] }, board := b, hash := 0 }

/-- `WF` square by square; the word-level `wfWords` is cheaper to evaluate. -/
def wfCheck_C04 (b : Board) : Bool :=
  (List.range 64).all fun i =>
    decide ((bit b.elephants i).toNat + (bit b.camels i).toNat + (bit b.horses i).toNat +
      (bit b.dogs i).toNat + (bit b.cats i).toNat + (bit b.rabbits i).toNat ≤ 1) &&
    (bit b.all i == (bit b.elephants i || bit b.camels i || bit b.horses i || bit b.dogs i ||
      bit b.cats i || bit b.rabbits i)) &&
    (!bit b.p1 i || bit b.all i)

theorem wf_of_check_C04 (b : Board) (h : wfCheck_C04 b = true) : WF b := by
  unfold wfCheck_C04 at h
  have h' : ∀ i, i < 64 → _ := fun i hi => List.all_eq_true.mp h i (List.mem_range.2 hi)
  simp only [Bool.and_eq_true, decide_eq_true_eq, beq_iff_eq] at h'
  refine ⟨fun i hi => (h' i hi).1.1, fun i hi => (h' i hi).1.2, fun i hi hp => ?_⟩
  have := (h' i hi).2
  rw [hp] at this
  exact this

/-- line 1: Silver has just moved and has a rabbit on h1 (square 63); Gold also has one on a8 —
the player who just moved wins -/
def exB1_C04 : Board := Board.new (sqBit 0) 0 0 0 0 0 (sqBit 0 ||| sqBit 63)
example : WF exB1_C04 := wf_of_check_C04 _ (by decide +kernel)
example : (exState_C04 true exB1_C04).isTerminal = some .silverWin := by decide +kernel
example : Spec.result (absBoard exB1_C04) true = some .silverWin := by decide +kernel

/-- line 1 with Silver to move: on the same board Gold is the player who just moved -/
example : (exState_C04 false exB1_C04).isTerminal = some .goldWin := by decide +kernel

/-- line 2: Gold to move has a rabbit on h8 (square 7), Silver's rabbit is on c7 -/
def exB2_C04 : Board := Board.new (sqBit 7) 0 0 0 0 0 (sqBit 7 ||| sqBit 10)
example : WF exB2_C04 := wf_of_check_C04 _ (by decide +kernel)
example : (exState_C04 true exB2_C04).isTerminal = some .goldWin := by decide +kernel

/-- line 3: Gold to move has no rabbit (only an elephant on a3), Silver has one -/
def exB3_C04 : Board := Board.new (sqBit 40) (sqBit 40) 0 0 0 0 (sqBit 10)
example : WF exB3_C04 := wf_of_check_C04 _ (by decide +kernel)
example : (exState_C04 true exB3_C04).isTerminal = some .silverWin := by decide +kernel

/-- line 4: Gold to move has a rabbit on a3, Silver has only an elephant -/
def exB4_C04 : Board := Board.new (sqBit 40) (sqBit 10) 0 0 0 0 (sqBit 40)
example : WF exB4_C04 := wf_of_check_C04 _ (by decide +kernel)
example : (exState_C04 true exB4_C04).isTerminal = some .goldWin := by decide +kernel

/-- line 5: Gold to move has a single rabbit on a1 frozen by Silver cats on a2 and b1; Silver has
a rabbit on c7 — Gold has no step and loses -/
def exB5_C04 : Board := Board.new (sqBit 56) 0 0 0 0 (sqBit 48 ||| sqBit 57) (sqBit 56 ||| sqBit 10)
example : WF exB5_C04 := wf_of_check_C04 _ (by decide +kernel)
example : (exState_C04 true exB5_C04).isTerminal = some .silverWin := by decide +kernel
example : hasStep (absBoard exB5_C04) true = false := by decide +kernel

/-- line 6: both sides have a rabbit off the goal ranks and Gold can step — no result -/
def exB6_C04 : Board := Board.new (sqBit 48) 0 0 0 0 0 (sqBit 48 ||| sqBit 8)
theorem exB6_C04_wf : WF exB6_C04 := wf_of_check_C04 _ (by decide +kernel)
example : WF exB6_C04 := exB6_C04_wf
example : (exState_C04 true exB6_C04).isTerminal = none := by decide +kernel

/-- the hypotheses of `C04_turn_start` hold for these states -/
example : ∃ pp, (exState_C04 true exB1_C04).phase = .play pp ∧ pp.step = 0 ∧ pp.pps = .none :=
  ⟨_, rfl, rfl, rfl⟩

/-- the hypotheses of `C04_turn_start_reachable` hold for the line-6 state, and the state after Gold's
offered step a2-a3 is reached by an `OfferedRun` -/
example : PlayInv (exState_C04 true exB6_C04) (PlayPhase.initial 0 []) :=
  ⟨rfl, exB6_C04_wf, trivial, by decide⟩
example : TurnInv (exState_C04 true exB6_C04) := turnInv_of_initial _ _ _ rfl
example : OfferedRun (exState_C04 true exB6_C04)
    ((exState_C04 true exB6_C04).takeAction (.move 48 .up)) :=
  .step .refl (by decide +kernel)

/-- mid-turn: the board of line 1 (rabbits of both sides on their goal ranks) and the board of
line 3 (Gold without rabbits) report no result after one step of the turn -/
example : ∃ pp, (exMid_C04 true exB1_C04).phase = .play pp ∧ pp.step = 1 := ⟨_, rfl, rfl⟩
example : (exMid_C04 true exB1_C04).isTerminal = none := by decide +kernel
example : (exMid_C04 true exB3_C04).isTerminal = none := by decide +kernel
example : (exMid_C04 true exB1_C04).validActions ≠ [] := by decide +kernel

example : ({ exState_C04 true exB1_C04 with phase := .place }).isTerminal = none := rfl

end Arimaa
