import Arimaa.Lemmas.Types
import Arimaa.Lemmas.Dirs
import Arimaa.Lemmas.Frozen
import Arimaa.Lemmas.SquareBits
import Arimaa.Lemmas.ListLogic

/-!
The four generators of `valid_actions_` against the specification's enabledness predicates.

Own steps and push starts are read off one mask per direction; bit `i` of that mask is the specification's
predicate at `(i, d)`.  The two completion generators list, for each direction, the step into the vacated
square if its source passes a test (`mem_stepsInto`).
-/
namespace Arimaa
open Gen Spec GameState

def absPend : PPS → Spec.Pending
  | .none => .none
  | .possiblePull q x => .pull q (toSpec x)
  | .mustCompletePush q v => .push q (toSpec v)

theorem absPend_eq_none (p : PPS) (h : absPend p = .none) : p = .none := by
  cases p <;> simp only [absPend, reduceCtorEq] at h ⊢

theorem absPend_isPush (p : PPS) : (absPend p).isPush = p.isMustCompletePush := by
  cases p <;> rfl

def PendOk (b : Board) : PPS → Prop
  | .none => True
  | .possiblePull q _ => q < 64 ∧ bit b.all q = false
  | .mustCompletePush q _ => q < 64 ∧ bit b.all q = false

theorem mem_maskMoves (m : Dir → BB) (i : Nat) (d : Dir) :
    Action.move i d ∈ Dir_ALL.flatMap (fun d => (squaresOf (m d)).map (Action.move · d)) ↔
      i < 64 ∧ bit (m d) i = true := by
  simp only [List.mem_flatMap, List.mem_map, mem_squaresOf]
  constructor
  · rintro ⟨_, _, _, h, heq⟩
    cases heq
    exact h
  · intro h
    exact ⟨d, mem_Dir_ALL d, i, h, rfl⟩

theorem mem_ownMoves (s : GameState) (b : Board) (i : Nat) (d : Dir) :
    Action.move i d ∈ s.ownMoves b ↔
      i < 64 ∧ bit (canMoveInDirection d b) i = true ∧ bit (s.currPlayerNonFrozenPieces b) i = true ∧
        bit (s.invalidRabbitMoves d b) i = false := by
  unfold ownMoves
  rw [mem_maskMoves, bit_and, bit_and, bit_not]
  constructor
  · rintro ⟨hi, h⟩
    simp only [Bool.and_eq_true, Bool.not_eq_true'] at h
    exact ⟨hi, h.1.1, h.1.2, h.2.2⟩
  · rintro ⟨hi, h1, h2, h3⟩
    simp [h1, h2, h3, hi]

theorem backward_iff (gold : Bool) (d : Dir) :
    (d = if gold then backwardDirP1 else backwardDirP2) ↔ dirSpec d = backward gold := by
  cases gold <;> cases d <;> simp [backwardDirP1, backwardDirP2, dirSpec, backward]

theorem invalidRabbit_bit (s : GameState) (b : Board) (hw : WF b) (d : Dir) (i : Nat) :
    bit (s.invalidRabbitMoves d b) i =
      ((absBoard b i == some ⟨s.p1Turn, .rabbit⟩) && (dirSpec d == backward s.p1Turn)) := by
  unfold invalidRabbitMoves
  by_cases hd : dirSpec d = backward s.p1Turn
  · rw [if_pos ((backward_iff _ d).mpr hd), rabbit_abs b hw, hd, beq_self_eq_true, Bool.and_true]
  · rw [if_neg (fun h => hd ((backward_iff _ d).mp h)), beq_eq_false_iff_ne.mpr hd, Bool.and_false, bit_zero]

theorem ownMask_bit (s : GameState) (b : Board) (hw : WF b) (d : Dir) (i : Nat) (hi : i < 64) :
    bit (canMoveInDirection d b &&& s.currPlayerNonFrozenPieces b &&& ~~~s.invalidRabbitMoves d b) i =
      ownStep (absBoard b) s.p1Turn i (dirSpec d) := by
  rw [bit_and, bit_and, bit_not, canMove_abs d b hw i hi, nonFrozen_abs s b hw i hi, invalidRabbit_bit s b hw d i,
    decide_eq_true hi]
  unfold ownStep ownedBy
  cases absBoard b i with
  | none => cases nbr i (dirSpec d) <;> simp
  | some c =>
    cases nbr i (dirSpec d) with
    | none => simp
    | some j =>
      -- both sides are the same conjunction, up to order and a repeated owner test
      rw [Option.some_beq_some, cell_beq_def]
      dsimp only
      generalize (absBoard b j).isNone = e
      generalize (c.gold == s.p1Turn) = o
      generalize frozen (absBoard b) i = f
      generalize (dirSpec d == backward s.p1Turn) = k
      generalize (c.piece == Spec.Piece.rabbit) = r
      revert e o f k r
      decide

theorem ownMoves_iff (s : GameState) (b : Board) (hw : WF b) (i : Nat) (d : Dir) :
    Action.move i d ∈ s.ownMoves b ↔
      i < 64 ∧ ownStep (absBoard b) s.p1Turn i (dirSpec d) = true := by
  unfold ownMoves
  rw [mem_maskMoves]
  exact and_congr_right fun hi => by rw [ownMask_bit s b hw d i hi]

theorem hasPusher_abs (s : GameState) (b : Board) (hw : WF b) (i k : Nat) :
    nbAny (fun j => bit (s.currPlayerNonFrozenPieces b) j && decide (k < cellStr (absBoard b j))) i =
      hasPusher (absBoard b) s.p1Turn i k := by
  unfold hasPusher
  apply nbAny_congr
  intro j
  by_cases hj : j < 64
  · rw [nonFrozen_abs s b hw j hj]
    unfold ownedBy
    cases absBoard b j <;> rfl
  · rw [absBoard_ge b j (by omega), bit_ge _ j (by omega)]; rfl

theorem pushMask_bit (s : GameState) (b : Board) (hw : WF b) (st : Nat) (d : Dir) (i : Nat) (hi : i < 64) :
    (decide (st < 3) &&
      bit (canMoveInDirection d b &&&
        threatenedPieces (s.currPlayerNonFrozenPieces b) (s.opponentPieceMask b) b) i) =
      pushStart (absBoard b) s.p1Turn st i (dirSpec d) := by
  rw [bit_and, canMove_abs d b hw i hi, threatened_abs _ _ b hw i hi, opponentPieceMask_eq, hw.rep.side_bit,
    hasPusher_abs s b hw]
  unfold pushStart ownedBy
  cases absBoard b i with
  | none => cases nbr i (dirSpec d) <;> simp
  | some c =>
    cases nbr i (dirSpec d) with
    | none => simp
    | some j =>
      dsimp only [Option.isSome_some, cellStr]
      generalize (absBoard b j).isNone = e
      generalize hasPusher (absBoard b) s.p1Turn i c.piece.strength = p
      cases s.p1Turn <;> cases c.gold <;> cases e <;> cases p <;> cases decide (st < 3) <;> rfl

theorem mem_pushActions (s : GameState) (pp : PlayPhase) (b : Board) (i : Nat) (d : Dir) :
    Action.move i d ∈ s.pushActions pp b ↔
      pp.pps.canPush = true ∧ pp.step < 3 ∧ i < 64 ∧ bit (canMoveInDirection d b) i = true ∧
        bit (threatenedPieces (s.currPlayerNonFrozenPieces b) (s.opponentPieceMask b) b) i = true := by
  unfold pushActions
  simp only [List.mem_ite_nil_right, mem_maskMoves, Bool.and_eq_true, decide_eq_true_eq, bit_and, and_assoc]
  -- the emptiness test of the threatened set is implied by its bit `i`
  refine and_congr_right fun _ => and_congr_right fun _ => and_iff_right_of_imp fun h => ?_
  exact bne_iff_ne.mpr ((bb_ne_zero_iff _).mpr ⟨i, h.1, h.2.2⟩)

theorem pushActions_iff (s : GameState) (pp : PlayPhase) (b : Board) (hw : WF b) (i : Nat) (d : Dir) :
    Action.move i d ∈ s.pushActions pp b ↔
      i < 64 ∧ pp.pps.isMustCompletePush = false ∧
        pushStart (absBoard b) s.p1Turn pp.step i (dirSpec d) = true := by
  rw [mem_pushActions]
  unfold PPS.canPush
  constructor
  · rintro ⟨hm, hst, hi, h1, h2⟩
    refine ⟨hi, by simpa using hm, ?_⟩
    rw [← pushMask_bit s b hw pp.step d i hi, bit_and, h1, h2, decide_eq_true hst]
    rfl
  · rintro ⟨hi, hm, hps⟩
    rw [← pushMask_bit s b hw pp.step d i hi, bit_and] at hps
    simp only [Bool.and_eq_true, decide_eq_true_eq] at hps
    exact ⟨by simpa using hm, hps.1, hi, hps.2.1, hps.2.2⟩

/-- For direction `d` both completion generators look at the square `j` from which a step in direction `d`
enters `q`, and list that step if `j` passes a test `P` (`c d` is the code's test for direction `d`, `a d` the
action it then lists). -/
theorem mem_stepsInto (q : Nat) (hq : q < 64) (c : Dir → Bool) (a : Dir → Action) (P : Nat → Bool)
    (h : ∀ d, match nbr q (dirSpec d).opp with
      | some j => c d = P j ∧ (P j = true → a d = .move j d)
      | none => c d = false) (i : Nat) (d : Dir) :
    (∃ d', c d' = true ∧ Action.move i d = a d') ↔ i < 64 ∧ nbr i (dirSpec d) = some q ∧ P i = true := by
  constructor
  · rintro ⟨d', hc, ha⟩
    have hd := h d'
    cases hn : nbr q (dirSpec d').opp with
    | none => rw [hn] at hd; rw [hd] at hc; cases hc
    | some j =>
      rw [hn] at hd
      have hP := hd.1.symm.trans hc
      rw [hd.2 hP] at ha
      cases ha
      have hb := nbr_opp q i _ hq hn
      rw [Spec.Dir.opp_opp] at hb
      exact ⟨nbr_lt q i _ hq hn, hb, hP⟩
  · rintro ⟨hi, hn, hP⟩
    have hd := h d
    rw [nbr_opp i q _ hi hn] at hd
    exact ⟨d, hd.1.trans hP, (hd.2 hP).symm⟩

theorem pullEnd_bits (s : GameState) (b : Board) (hw : WF b) (q : Nat) (x : Piece)
    (hqe : bit b.all q = false) (i : Nat) (d : Dir) :
    nbr i (dirSpec d) = some q ∧ bit (lesserPieces x b &&& s.opponentPieceMask b) i = true ↔
      pullEnd (absBoard b) s.p1Turn (.pull q (toSpec x)) i (dirSpec d) = true := by
  rw [bit_and, lesserPieces_abs b hw x i, opponentPieceMask_eq, hw.rep.side_bit]
  unfold pullEnd ownedBy
  cases absBoard b i with
  | none => simp
  | some c =>
    cases nbr i (dirSpec d) with
    | none => simp
    | some j =>
      by_cases e : j = q
      · subst e
        simp only [absBoard_isNone b hw j, hqe, beq_self_eq_true, Bool.not_false, Bool.and_true, Option.any_some,
          true_and]
        cases c.gold <;> cases s.p1Turn <;> simp
      · simp [e]

theorem pullExtend_iff (s : GameState) (pp : PlayPhase) (b : Board) (hw : WF b) (hp : PendOk b pp.pps)
    (i : Nat) (d : Dir) :
    Action.move i d ∈ s.pullExtend pp b [] ↔
      i < 64 ∧ pullEnd (absBoard b) s.p1Turn (absPend pp.pps) i (dirSpec d) = true := by
  rw [mem_pullExtend_nil]
  cases hpps : pp.pps with
  | none => exact ⟨False.elim, fun ⟨_, h⟩ => (nomatch h)⟩
  | mustCompletePush q v => exact ⟨False.elim, fun ⟨_, h⟩ => (nomatch h)⟩
  | possiblePull q x =>
    rw [hpps] at hp
    obtain ⟨hq, hqe⟩ := hp
    show (∃ _, _) ↔ _
    rw [mem_stepsInto q hq _ _ (bit (lesserPieces x b &&& s.opponentPieceMask b))]
    · exact and_congr_right fun _ => pullEnd_bits s b hw q x hqe i d
    · intro d'
      rw [and_sqBit_ne_zero _ q hq, dirShift_bit _ d' q hq, oppShift_sqBit_eq d' q hq]
      cases hn : nbr q (dirSpec d').opp with
      | none => rfl
      | some j => exact ⟨rfl, fun _ => by rw [sqOfBit_sqBit j (nbr_lt q j _ hq hn)]⟩

theorem pushEnd_bits (s : GameState) (b : Board) (hw : WF b) (q : Nat) (v : Piece)
    (hqe : bit b.all q = false) (i : Nat) (hi : i < 64) (d : Dir) :
    nbr i (dirSpec d) = some q ∧
        (bit (s.currPlayerNonFrozenPieces b) i && Piece.lt v (pieceTypeAtBit (sqBit i) b)) = true ↔
      pushEnd (absBoard b) s.p1Turn (.push q (toSpec v)) i (dirSpec d) = true := by
  rw [nonFrozen_abs s b hw i hi, toSpec_strength_lt]
  unfold pushEnd ownedBy
  cases hc : absBoard b i with
  | none => simp
  | some c =>
    rw [pieceTypeAtBit_abs b hw i hi c hc]
    cases nbr i (dirSpec d) with
    | none => simp
    | some j =>
      by_cases e : j = q
      · subst e
        simp [absBoard_isNone b hw j, hqe]
      · simp [e]

theorem mustCompletePushActions_iff (s : GameState) (pp : PlayPhase) (b : Board) (hw : WF b) (hp : PendOk b pp.pps)
    (i : Nat) (d : Dir) :
    Action.move i d ∈ s.mustCompletePushActions pp b ↔
      i < 64 ∧ pushEnd (absBoard b) s.p1Turn (absPend pp.pps) i (dirSpec d) = true := by
  rw [mem_mustCompletePushActions]
  cases hpps : pp.pps with
  | none => exact ⟨False.elim, fun ⟨_, h⟩ => (nomatch h)⟩
  | possiblePull q x => exact ⟨False.elim, fun ⟨_, h⟩ => (nomatch h)⟩
  | mustCompletePush q v =>
    rw [hpps] at hp
    obtain ⟨hq, hqe⟩ := hp
    show (∃ _, _) ↔ _
    rw [mem_stepsInto q hq _ _
      (fun j => bit (s.currPlayerNonFrozenPieces b) j && Piece.lt v (pieceTypeAtBit (sqBit j) b))]
    · exact and_congr_right fun hi => pushEnd_bits s b hw q v hqe i hi d
    · intro d'
      rw [oppShift_sqBit_eq d' q hq]
      cases hn : nbr q (dirSpec d').opp with
      | none => simp
      | some j =>
        have hj := nbr_lt q j _ hq hn
        simp only [sqBit_and_mask _ j hj]
        -- the bit tested is that of `j` if `j` holds an unfrozen piece of the mover, and empty otherwise
        cases bit (s.currPlayerNonFrozenPieces b) j
        · simp
        · have h0 : ¬ sqBit j = 0#64 := sqBit_ne_zero j hj
          simp [h0, sqOfBit_sqBit j hj]

end Arimaa
