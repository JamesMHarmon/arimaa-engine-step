import Arimaa.Lemmas.ConcCount

/-! The other half of the count invariant (`Inv` is the half memory safety needs): the ghost owner list of a node has
no duplicates and every owner in it is a live reference (`Exact`), so that, with `Inv.counted`, the count of a node is
the number of its live references.  Handle keys are unique per thread (`func`, `KeysLt`), so distinct handles have
distinct tokens.  An atomic step is taken apart into the same writes as for `Inv`, in the opposite order: a token is
erased before its reference is given up, and a reference exists before it is counted. -/

namespace Arimaa.Conc

structure Exact (a : AState) : Prop where
  nodup : ∀ id, (a.arcs id).owners.Nodup
  onlyRefs : ∀ id tok, tok ∈ (a.arcs id).owners → Refs a id tok
  /-- a key names one handle of a thread, so that the token `handle t k` names one reference: `drop` of `k` turns
  that handle, and no other, into the reference being given up -/
  func : ∀ t k x y, (k, x) ∈ a.tbl t → (k, y) ∈ a.tbl t → x = y

theorem Exact.setOwners {a : AState} (e : Exact a) {id : NodeId} {os : List Owner} (hnd : os.Nodup)
    (hr : ∀ tok, tok ∈ os → Refs a id tok) :
    Exact { a with arcs := upd a.arcs id { a.arcs id with owners := os } } := by
  refine ⟨fun x => ?_, fun x tok hm => ?_, e.func⟩ <;> dsimp only at *
  · by_cases hx : x = id
    · rw [hx, upd_self]; exact hnd
    · rw [upd_ne hx]; exact e.nodup x
  · have r : Refs a x tok := by
      by_cases hx : x = id
      · subst hx; rw [upd_self] at hm; exact hr tok hm
      · rw [upd_ne hx] at hm; exact e.onlyRefs x tok hm
    exact Refs.congr (A' := a.arcs) r fun y => (upd_owners_freed a.arcs id os y).symm

theorem Exact.setRel {a : AState} (e : Exact a) (u : Nat) {r : Rel}
    (hold : ∀ id tok, a.rel u = .dec id tok → tok ∉ (a.arcs id).owners) :
    Exact { a with rel := updN a.rel u r } := by
  refine ⟨e.nodup, fun x tok hm => ?_, e.func⟩
  exact (e.onlyRefs x tok hm).mono rfl (fun _ _ hk => hk) (fun _ _ hp hfr => ⟨hp, hfr⟩) fun t hp =>
    (updN_ne fun (ht : t = u) => hold x tok (ht ▸ hp) hm).trans hp

theorem Exact.setFreed {a : AState} (e : Exact a) {p : NodeId}
    (hl : ∀ f j, a.fields p = some f → f.next = some j → Owner.node p ∈ (a.arcs j).owners →
      ∃ t, a.rel t = .dec j (.node p)) :
    Exact { a with arcs := upd a.arcs p { a.arcs p with freed := true } } := by
  refine ⟨fun x => ?_, fun x tok hm => ?_, e.func⟩ <;> dsimp only at *
  · rw [upd_freed_owners]; exact e.nodup x
  · rw [upd_freed_owners] at hm
    cases e.onlyRefs x tok hm with
    | root hi => exact .root hi
    | handle hk => exact .handle hk
    | link hq hn hfr =>
      rename_i q f
      by_cases hqp : q = p
      · subst hqp
        obtain ⟨t, ht⟩ := hl f x hq hn hm
        exact .pending ht
      · exact .link hq hn ((congrArg Meta.freed (upd_ne hqp)).trans hfr)
    | pending hp => exact .pending hp

theorem Exact.setTbl {a : AState} (e : Exact a) {u : Nat} {tb : List (Nat × NodeId)}
    (hfunc : ∀ k x y, (k, x) ∈ tb → (k, y) ∈ tb → x = y)
    (hkeep : ∀ k id, (k, id) ∈ a.tbl u → (k, id) ∈ tb ∨ ∃ t, a.rel t = .dec id (.handle u k)) :
    Exact { a with tbl := updN a.tbl u tb } := by
  refine ⟨e.nodup, fun x tok hm => ?_, fun t k x y h1 h2 => ?_⟩
  · cases e.onlyRefs x tok hm with
    | root hi => exact .root hi
    | handle hk =>
      rename_i t k
      by_cases ht : t = u
      · subst ht
        rcases hkeep k x hk with h | ⟨t', h⟩
        · exact .handle (by simp only [updN_self]; exact h)
        · exact .pending h
      · exact .handle (by simp only [updN_ne ht]; exact hk)
    | link hp hn hfr => exact .link hp hn hfr
    | pending hp => exact .pending hp
  · by_cases ht : t = u
    · subst ht; simp only [updN_self] at h1 h2; exact hfunc k x y h1 h2
    · simp only [updN_ne ht] at h1 h2; exact e.func t k x y h1 h2

/-- the write of `Inv.allocFields`, for any node without fields and any new `actr`: `Exact` does not look at the arena
counters -/
theorem Exact.setFields {a : AState} (e : Exact a) {n : NodeId} {f : Fields} {C : Nat → Option Nat}
    (hn : a.fields n = none) : Exact { a with fields := upd a.fields n (some f), actr := C } := by
  refine ⟨e.nodup, fun x tok hm => ?_, e.func⟩
  -- the new node had no fields, so every link leaves another node
  refine (e.onlyRefs x tok hm).mono rfl (fun _ _ hk => hk) (fun q f' hq hfr => ?_) fun _ hp => hp
  have hqn : q ≠ n := fun e' => by rw [e', hn] at hq; cases hq
  exact ⟨(upd_ne hqn).trans hq, hfr⟩

theorem func_cons {tbl : List (Nat × NodeId)} {k : Nat} {id0 : NodeId}
    (hfunc : ∀ k x y, (k, x) ∈ tbl → (k, y) ∈ tbl → x = y) (hnew : ∀ x, (k, x) ∉ tbl) :
    ∀ k' x y, (k', x) ∈ (k, id0) :: tbl → (k', y) ∈ (k, id0) :: tbl → x = y := by
  intro k' x y h1 h2
  rcases List.mem_cons.1 h1 with e1 | h1 <;> rcases List.mem_cons.1 h2 with e2 | h2
  · cases e1; cases e2; rfl
  · cases e1; exact absurd h2 (hnew y)
  · cases e2; exact absurd h1 (hnew x)
  · exact hfunc k' x y h1 h2

theorem AStep.exact {a a' : AState} {u k : Nat} (st : AStep u k a a') (h : Inv a) (e : Exact a)
    (hk : ∀ x, (k, x) ∉ a.tbl u) : Exact a' := by
  -- the new handle, which every old reference survives
  have htbl : ∀ id, Exact { a with tbl := updN a.tbl u ((k, id) :: a.tbl u) } := fun id =>
    e.setTbl (func_cons (e.func u) hk) fun k' id' hm => .inl (List.mem_cons_of_mem _ hm)
  have hhandle : ∀ id, Refs { a with tbl := updN a.tbl u ((k, id) :: a.tbl u) } id (.handle u k) := fun id =>
    .handle (by simp only [updN_self]; exact List.mem_cons_self)
  cases st with
  | nop => exact e
  | @dec id tok hu =>
    -- erase `tok`; `u` idle or freeing `id`
    have e1 := e.setOwners (id := id) ((e.nodup id).erase tok) fun tok' hm => e.onlyRefs id tok' (List.mem_of_mem_erase hm)
    refine e1.setRel u fun id' tok' hu' hm => ?_
    cases hu.symm.trans hu'
    simp only [upd_self] at hm
    exact ((e.nodup id).mem_erase_iff.1 hm).1 rfl
  | @free p hu =>
    -- `u` releasing the `next` reference of `p`, if any; `p` freed
    have e1 := e.setRel u (r := match (a.fields p).bind (·.next) with
        | some j => .dec j (.node p)
        | none => .idle) fun id tok hu' => by cases hu.symm.trans hu'
    refine e1.setFreed fun f j hf hn _ => ⟨u, ?_⟩
    have hb : (a.fields p).bind (·.next) = some j := (congrArg (·.bind (·.next)) hf).trans hn
    simp only [updN_self, hb]
  | @clone id hidle hl =>
    -- the new handle; one more owner
    refine (htbl id).setOwners (List.nodup_cons.2 ⟨fun hm => ?_, e.nodup id⟩) fun tok hm => ?_
    · -- its token is new: key `k` is unused, and `u` is not releasing anything
      cases e.onlyRefs id _ hm with
      | handle hm' => exact hk id hm'
      | pending hp =>
        rename_i t
        obtain ⟨rfl, _⟩ := h.pendH t id u k hp
        rw [hidle] at hp; cases hp
    · rcases List.mem_cons.1 hm with rfl | hm
      · exact hhandle id
      · exact (htbl id).onlyRefs id tok hm
  | @alloc c f hidle hc hl =>
    -- the new handle; the new node; one more owner for its `next`
    have F := h.fresh u c c hc (Nat.le_refl _)
    have e1 := (htbl ⟨u + 1, c⟩).setFields (f := f) (C := updN a.actr u (some (c + 1))) F.nofields
    have e2 := e1.setOwners (id := ⟨u + 1, c⟩) (List.pairwise_singleton _ (Owner.handle u k))
      fun tok hm => by cases List.mem_singleton.1 hm; exact .handle (by simp only [updN_self]; exact List.mem_cons_self)
    -- `setOwners` keeps the node's `freed` flag, `false` on a fresh node: this is the `Meta` the step writes
    have em : ({ a.arcs ⟨u + 1, c⟩ with owners := [.handle u k] } : Meta) = { owners := [.handle u k], freed := false } :=
      congrArg (Meta.mk _) F.notfreed
    dsimp only at e2
    rw [em] at e2
    cases hn : f.next with
    | none => exact e2
    | some j =>
      have hjn : j ≠ ⟨u + 1, c⟩ := fun e' => (h.of_refReach (hl j hn)).1 (e' ▸ F.noowners)
      refine e2.setOwners (id := j) (List.nodup_cons.2 ⟨fun hm => ?_, e2.nodup j⟩) fun tok hm => ?_
      · -- no owner is a `next` link of the new node yet: it had no fields and was not freed
        simp only [upd_ne hjn] at hm
        cases e.onlyRefs j _ hm with
        | link hq => rw [F.nofields] at hq; cases hq
        | pending hp =>
          rename_i t
          exact Bool.noConfusion (F.notfreed.symm.trans (h.pendN t j _ hp))
      · rcases List.mem_cons.1 hm with rfl | hm
        · exact .link (upd_self ..) hn (congrArg Meta.freed (upd_self ..))
        · exact e2.onlyRefs j tok hm
  | @release key id hidle hmem =>
    -- `u` releasing the handle; the handle leaves the table
    have e1 := e.setRel u (r := .dec id (.handle u key)) fun id' tok' hu' => by rw [hidle] at hu'; cases hu'
    refine e1.setTbl
      (fun k x y h1 h2 => e.func u k x y (List.mem_filter.1 h1).1 (List.mem_filter.1 h2).1) fun k' x hm => ?_
    by_cases hk' : k' = key
    · subst hk'
      cases e.func u k' x id hm hmem
      exact .inr ⟨u, updN_self ..⟩
    · exact .inl (List.mem_filter.2 ⟨hm, by simpa using hk'⟩)

/-- the key `ctr` a thread gives its next handle is not in its table: `clone` and `append` keep `Exact.func` -/
def KeysLt (ths : List Thread) : Prop :=
  ∀ (t : Nat) (th : Thread), ths[t]? = some th → ∀ k id, (k, id) ∈ th.loc.table → k < th.loc.ctr

theorem instr_keysLt {t : Nat} {roots : List NodeId} {V : View} {L L' : Local} {eff : Effect}
    (hI : instr t roots V L = (L', eff)) (hk : ∀ k id, (k, id) ∈ L.table → k < L.ctr) :
    ∀ k id, (k, id) ∈ L'.table → k < L'.ctr := by
  have hcons : ∀ x k id, (k, id) ∈ (L.ctr, x) :: L.table → k < L.ctr + 1 := fun x k id hm => by
    rcases List.mem_cons.1 hm with e | hm
    · cases e; exact Nat.lt_succ_self _
    · exact Nat.lt_succ_of_lt (hk k id hm)
  cases eff with
  | none => obtain ⟨hT, hc, _⟩ := instr_spec hI; rw [hT, hc]; exact hk
  | addOwner id tok => obtain ⟨_, _, hT, hc, _⟩ := instr_spec hI; rw [hT, hc]; exact hcons _
  | alloc n f tok => obtain ⟨_, _, hT, hc, _⟩ := instr_spec hI; rw [hT, hc]; exact hcons _
  | release id tok =>
    obtain ⟨key, _, _, hT, hc, _⟩ := instr_spec hI
    rw [hT, hc]; exact fun k id hm => hk k id (List.mem_filter.1 hm).1

theorem keysLt_set {ths : List Thread} (kl : KeysLt ths) (u : Nat) (x : Thread)
    (hx : ∀ k id, (k, id) ∈ x.loc.table → k < x.loc.ctr) : KeysLt (ths.set u x) :=
  forall_threads_set kl hx u

theorem keysLt_step (s : State) (u : Nat) (kl : KeysLt s.threads) : KeysLt (step s u).threads := by
  fun_cases step s u with
  | case1 => exact kl
  | case2 th hu => exact keysLt_set kl u _ (kl u th hu)
  | case3 th hu => exact keysLt_set kl u _ (kl u th hu)
  | case4 th hu _ L hI => exact keysLt_set kl u _ (instr_keysLt hI (kl u th hu))
  | case5 th hu _ L _ _ hI => exact keysLt_set kl u _ (instr_keysLt hI (kl u th hu))
  | case6 th hu _ L _ _ _ hI => exact keysLt_set kl u _ (instr_keysLt hI (kl u th hu))
  | case7 th hu _ L _ _ hI => exact keysLt_set kl u _ (instr_keysLt hI (kl u th hu))

theorem exact_step (s : State) (u : Nat) (h : Inv (abs s)) (e : Exact (abs s)) (kl : KeysLt s.threads) :
    Exact (abs (step s u)) := by
  cases hu : s.threads[u]? with
  | none => rw [step_oob hu]; exact e
  | some th =>
    refine (abs_step hu).exact h e fun x hm => ?_
    obtain ⟨th', hu', hm⟩ := mem_tableOf.1 hm
    cases hu.symm.trans hu'
    exact Nat.lt_irrefl _ (kl u th hu _ _ hm)

/-- `keys` speaks of `State` because `AState` forgets the key counters -/
structure InvX (s : State) : Prop where
  inv : Inv (abs s)
  exact : Exact (abs s)
  keys : KeysLt s.threads

theorem invX_step (s : State) (u : Nat) (h : InvX s) : InvX (step s u) :=
  ⟨inv_step s u h.inv, exact_step s u h.inv h.exact h.keys, keysLt_step s u h.keys⟩

theorem invX_run (sched : List Nat) : ∀ s : State, InvX s → InvX (run s sched) :=
  run_induction invX_step sched

/-- what is assumed of the initial state for exact counts, on top of `WellFormed`: the owner lists have no
duplicates and contain nothing but the root handles, the threads' handles and the `next` links of non-freed
nodes; a thread's handle keys are distinct and below its key counter -/
structure WellFormedX (s : State) : Prop extends WellFormed s where
  nodup : ∀ id, (s.arcs id).owners.Nodup
  onlyRefs : ∀ id tok, tok ∈ (s.arcs id).owners →
    (∃ i : Nat, tok = .root i ∧ s.roots[i]? = some id) ∨
    (∃ (t : Nat) (th : Thread) (k : Nat), tok = .handle t k ∧ s.threads[t]? = some th ∧ (k, id) ∈ th.loc.table) ∨
    (∃ (p : NodeId) (f : Fields), tok = .node p ∧ s.fields p = some f ∧ f.next = some id ∧ (s.arcs p).freed = false)
  keysFunc : ∀ (t : Nat) (th : Thread) (k : Nat) (x y : NodeId), s.threads[t]? = some th →
    (k, x) ∈ th.loc.table → (k, y) ∈ th.loc.table → x = y
  keysLt : KeysLt s.threads

theorem WellFormedX.invX {s : State} (w : WellFormedX s) : InvX s := by
  refine ⟨w.toWellFormed.inv, ⟨w.nodup, fun id tok hm => ?_, fun t k x y h1 h2 => ?_⟩, w.keysLt⟩
  · rcases w.onlyRefs id tok hm with ⟨i, rfl, hi⟩ | ⟨t, th, k, rfl, ht, hk⟩ | ⟨p, f, rfl, hp, hn, hfr⟩
    · exact .root hi
    · exact .handle (mem_tableOf.2 ⟨_, ht, hk⟩)
    · exact .link hp hn hfr
  · obtain ⟨th, ht, h1⟩ := mem_tableOf.1 h1
    obtain ⟨th', ht', h2⟩ := mem_tableOf.1 h2
    cases ht.symm.trans ht'
    exact w.keysFunc t th k x y ht h1 h2

end Arimaa.Conc
