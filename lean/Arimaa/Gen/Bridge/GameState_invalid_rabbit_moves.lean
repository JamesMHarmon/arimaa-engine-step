-- GENERATED by /verif/tools/gen.py -- do not edit.  Bridge from the current text of `GameState::invalid_rabbit_moves` to the baseline text.
import Arimaa.Gen.Rs
import Arimaa.Gen.RsBase
import Arimaa.Gen.BridgeLadder

namespace Arimaa.Gen.Bridge
open Arimaa Arimaa.Gen Arimaa.Rt

set_option maxHeartbeats 1000000 in
theorem bridge_GameState_invalid_rabbit_moves : @Rs.GameState_invalid_rabbit_moves = @RsBase.GameState_invalid_rabbit_moves := by
  funext a0 a1 a2
  rs_ladder [Rs.GameState_invalid_rabbit_moves, RsBase.GameState_invalid_rabbit_moves] [] (cases a1) [Rs.GameState_invalid_rabbit_moves, RsBase.GameState_invalid_rabbit_moves]

end Arimaa.Gen.Bridge
