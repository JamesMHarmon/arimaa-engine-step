import Arimaa.Lemmas.Enabled
import Arimaa.Lemmas.Turn
import Arimaa.Lemmas.SpecMachine

/-!
The implementation model simulates the specification's turn machine `Spec.State` (Spec/Machine.lean):
under the play invariant the rule-only list holds exactly the actions that name an enabled action of
the machine (`sim_enabled`), and taking one keeps the invariant and leads to the state that describes
the machine's successor (`sim_step`).  Along runs (`OfferedNR`) the two give `sim_run`.
-/
namespace Arimaa
open Spec GameState

def absState (s : GameState) (pp : PlayPhase) : Spec.State :=
  ⟨absBoard s.board, s.p1Turn, pp.step, absPend pp.pps⟩

def absAct : Action → Option Spec.Act
  | .move i d => some (.move i (dirSpec d))
  | .pass => some .pass
  | .place _ => none

theorem pass_mem_noRep_iff (s : GameState) (pp : PlayPhase) (hph : s.phase = .play pp) :
    Action.pass ∈ s.validActionsNoRep ↔ passEnabled pp.step (absPend pp.pps) = true := by
  unfold validActionsNoRep
  rw [pass_mem_validActions__iff, canPass_play s pp hph false]
  unfold passEnabled
  rw [absPend_isPush]
  simp

theorem sim_enabled (s : GameState) (pp : PlayPhase) (h : PlayInv s pp) (a : Action) :
    a ∈ s.validActionsNoRep ↔ ∃ a', absAct a = some a' ∧ (absState s pp).enabled a' = true := by
  cases a with
  | place p => exact ⟨fun ha => absurd ha (validActions_play_notPlace s pp h.phase false p), fun ⟨_, e, _⟩ => nomatch e⟩
  | pass =>
    exact (pass_mem_noRep_iff s pp h.phase).trans ⟨fun he => ⟨_, rfl, he⟩, fun ⟨_, e, he⟩ => by cases e; exact he⟩
  | move i d =>
    rw [h.enabled_iff i d]
    constructor
    · rintro ⟨hi, he⟩
      exact ⟨_, rfl, by simp only [State.enabled, absState, hi, decide_true, Bool.true_and]; exact he⟩
    · rintro ⟨_, e, he⟩
      cases e
      simpa only [State.enabled, absState, Bool.and_eq_true, decide_eq_true_eq] using he

/-- **The model simulates the specification machine.**  An action of the rule-only list names an
enabled action of `Spec.State`, the invariant is kept, and the state reached describes the machine's
successor state: board (C02), side and step counter, status (C12) at once. -/
theorem sim_step (s : GameState) (pp : PlayPhase) (h : PlayInv s pp) (a : Action)
    (ha : a ∈ s.validActionsNoRep) :
    ∃ a' pp', absAct a = some a' ∧ (absState s pp).enabled a' = true ∧ PlayInv (s.takeAction a) pp' ∧
      absState (s.takeAction a) pp' = (absState s pp).next a' := by
  obtain ⟨a', e, he⟩ := (sim_enabled s pp h a).mp ha
  refine ⟨a', ?_⟩
  cases a with
  | place p => cases e
  | pass =>
    cases e
    simp only [takeAction]
    rw [pass_play s pp h.phase]
    exact ⟨_, rfl, he, ⟨rfl, h.wf, trivial, Nat.zero_le 3⟩, rfl⟩
  | move i d =>
    cases e
    obtain ⟨c, j, o⟩ := offered_step_facts s pp h i d ha
    have ht := h.wf.rep.takeMove o.src_lt o.nbr_eq o.dst_empty
    have hab := ht.abs
    have hw' := ht.wf
    simp only [takeAction]
    by_cases hlt : pp.step < 3
    · rw [movePiece_lt3 s pp h.phase i d hlt, State.next_mid _ _ _ hlt]
      -- the status names the square the step left, which is empty afterwards
      have hsrc : bit (s.board.takeMove i d).1.all i = false :=
        (absBoard_eq_none_iff _ hw' i).mp
          (by rw [hab, applyStep, o.nbr_eq]; exact step_src_none _ i j c o.src o.dst_empty)
      refine ⟨_, rfl, he, ⟨rfl, hw', pendOk_next s pp _ i d o.src_lt hsrc, ?_⟩, ?_⟩
      · show (pp.prev ++ [s.board]).length ≤ 3
        rw [List.length_append]; exact hlt
      · simp only [absState, hab, nextStatus_eq s pp h i d ha, PlayPhase.step, List.length_append,
          List.length_cons, List.length_nil]
    · rw [movePiece_ge3 s pp h.phase i d (by omega), State.next_last _ _ _ hlt]
      exact ⟨_, rfl, he, ⟨rfl, hw', trivial, Nat.zero_le 3⟩, by simp only [absState, turnEnd, hab]; rfl⟩

theorem playInv_step (s : GameState) (pp : PlayPhase) (h : PlayInv s pp) (a : Action)
    (ha : a ∈ s.validActionsNoRep) : ∃ pp', PlayInv (s.takeAction a) pp' :=
  let ⟨_, pp', _, _, h', _⟩ := sim_step s pp h a ha
  ⟨pp', h'⟩

theorem playInv_of_step (s : GameState) (pp : PlayPhase) (h : PlayInv s pp) (a : Action)
    (ha : a ∈ s.validActionsNoRep) (pp' : PlayPhase) (hph : (s.takeAction a).phase = .play pp') :
    PlayInv (s.takeAction a) pp' := by
  obtain ⟨pp1, h1⟩ := playInv_step s pp h a ha
  cases play_inj hph h1.phase
  exact h1

theorem sim_step_mid (s : GameState) (pp : PlayPhase) (h : PlayInv s pp) (i : Nat) (d : Dir)
    (ha : Action.move i d ∈ s.validActionsNoRep) (hlt : pp.step < 3) (pp' : PlayPhase)
    (hph' : (s.takeAction (.move i d)).phase = .play pp') :
    absPend pp'.pps = nextPending (absBoard s.board) s.p1Turn (absPend pp.pps) i (dirSpec d) ∧
      pp'.step = pp.step + 1 ∧ (s.takeAction (.move i d)).p1Turn = s.p1Turn := by
  obtain ⟨_, q, e, _, hq, hs⟩ := sim_step s pp h _ ha
  cases e
  cases play_inj hq.phase hph'
  rw [State.next_mid _ _ _ hlt] at hs
  injection hs with _ hg hst hp
  exact ⟨hp, hst, hg⟩

theorem step_board (s : GameState) (pp : PlayPhase) (h : PlayInv s pp) (i : Nat) (d : Dir)
    (ha : Action.move i d ∈ s.validActionsNoRep) :
    ∃ c j, OfferedStep (absBoard s.board) i (dirSpec d) c j ∧
      absBoard (s.takeAction (.move i d)).board = capture (move (absBoard s.board) i j) ∧
      WF (s.takeAction (.move i d)).board := by
  obtain ⟨c, j, o⟩ := offered_step_facts s pp h i d ha
  obtain ⟨_, pp', e, _, h', hs⟩ := sim_step s pp h _ ha
  cases e
  refine ⟨c, j, o, ?_, h'.wf⟩
  rw [show absBoard (s.takeAction (.move i d)).board = _ from congrArg State.board hs, State.next_board, applyStep,
    o.nbr_eq]
  rfl

def OfferedNR (s : GameState) : List Action → Prop
  | [] => True
  | a :: as => a ∈ s.validActionsNoRep ∧ OfferedNR (s.takeAction a) as

def Offered (s : GameState) : List Action → Prop
  | [] => True
  | a :: as => a ∈ s.validActions ∧ Offered (s.takeAction a) as

theorem offered_offeredNR (s : GameState) (as : List Action) (h : Offered s as) : OfferedNR s as := by
  induction as generalizing s with
  | nil => trivial
  | cons a as ih => exact ⟨mem_noRep_of_mem_validActions s a h.1, ih _ h.2⟩

theorem offeredNR_append (s : GameState) (as bs : List Action) :
    OfferedNR s (as ++ bs) ↔ OfferedNR s as ∧ OfferedNR (s.run as) bs := by
  induction as generalizing s with
  | nil => simp [OfferedNR]
  | cons a as ih => simp [OfferedNR, ih, and_assoc]

theorem offered_append (s : GameState) (as bs : List Action) :
    Offered s (as ++ bs) ↔ Offered s as ∧ Offered (s.run as) bs := by
  induction as generalizing s with
  | nil => simp [Offered]
  | cons a as ih => simp [Offered, ih, and_assoc]

/-- two games, the second the image of the first under `f`, are offered together if at every point reached by an
offered prefix the next action and its image are -/
theorem offered_map_iff (f : Action → Action) (s s' : GameState) (as : List Action)
    (h : ∀ bs c, bs ++ [c] <+: as → Offered s bs →
      (f c ∈ (s'.run (bs.map f)).validActions ↔ c ∈ (s.run bs).validActions)) :
    Offered s' (as.map f) ↔ Offered s as := by
  induction as using List.snoc_induction with
  | nil => exact Iff.rfl
  | snoc as a ih =>
    have ih := ih fun bs c hp => h bs c (hp.trans (List.prefix_append as [a]))
    have ha := h as a (List.prefix_refl _)
    rw [List.map_append, offered_append, offered_append, ih]
    exact and_congr_right fun ho => by
      show _ ∧ True ↔ _ ∧ True
      rw [ha ho]

theorem OfferedNR.induction {P : GameState → PlayPhase → Prop}
    (step : ∀ s pp, P s pp → ∀ a, a ∈ s.validActionsNoRep → ∃ pp', P (s.takeAction a) pp')
    (s : GameState) (pp : PlayPhase) (h : P s pp) (as : List Action) (ho : OfferedNR s as) :
    ∃ pp', P (s.run as) pp' := by
  induction as generalizing s pp with
  | nil => exact ⟨pp, h⟩
  | cons a as ih =>
    obtain ⟨pp1, h1⟩ := step s pp h a ho.1
    exact ih _ pp1 h1 ho.2

/-- **The games of the model are the games of the machine.**  A list of actions is playable in the
model (each in the rule-only list where it is taken) iff it holds no placement and the machine plays
the actions it names; the two end in the same turn state. -/
theorem sim_run (as : List Action) (s : GameState) (pp : PlayPhase) (h : PlayInv s pp) :
    OfferedNR s as ↔ (∀ a ∈ as, a.isTurnAction = true) ∧
      ∃ pp', PlayInv (s.run as) pp' ∧
        (absState s pp).run (as.filterMap absAct) = some (absState (s.run as) pp') := by
  induction as generalizing s pp with
  | nil => exact ⟨fun _ => ⟨nofun, pp, h, rfl⟩, fun _ => trivial⟩
  | cons a as ih =>
    cases ha' : absAct a with
    | none =>
      cases a <;> cases ha'
      constructor
      · intro ho
        obtain ⟨_, e, _⟩ := (sim_enabled s pp h _).mp ho.1
        cases e
      · intro hr
        cases hr.1 _ List.mem_cons_self
    | some a' =>
      have hta : a.isTurnAction = true := by cases a <;> first | rfl | cases ha'
      simp only [OfferedNR, run_cons, List.filterMap_cons, ha', State.run, List.forall_mem_cons, hta, true_and]
      constructor
      · rintro ⟨ha, ho⟩
        obtain ⟨a1, pp1, e, he, h1, hs⟩ := sim_step s pp h a ha
        cases ha'.symm.trans e
        rw [he, if_pos rfl, ← hs]
        exact (ih _ pp1 h1).mp ho
      · rintro ⟨hall, pp', h', hr⟩
        cases he : (absState s pp).enabled a' with
        | false => rw [he] at hr; cases hr
        | true =>
          have ha := (sim_enabled s pp h a).mpr ⟨a', ha', he⟩
          obtain ⟨a1, pp1, e, _, h1, hs⟩ := sim_step s pp h a ha
          cases ha'.symm.trans e
          rw [he, if_pos rfl, ← hs] at hr
          exact ⟨ha, (ih _ pp1 h1).mpr ⟨hall, pp', h', hr⟩⟩

theorem playInv_run (s : GameState) (pp : PlayPhase) (h : PlayInv s pp) (as : List Action)
    (ho : OfferedNR s as) : ∃ pp', PlayInv (s.run as) pp' :=
  let ⟨_, pp', h', _⟩ := (sim_run as s pp h).mp ho
  ⟨pp', h'⟩

end Arimaa
