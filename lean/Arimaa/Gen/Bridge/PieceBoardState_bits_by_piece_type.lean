-- GENERATED by /verif/tools/gen.py -- do not edit.  Bridge from the current text of `PieceBoardState::bits_by_piece_type` to the baseline text.
import Arimaa.Gen.Rs
import Arimaa.Gen.RsBase
import Arimaa.Gen.BridgeLadder

namespace Arimaa.Gen.Bridge
open Arimaa Arimaa.Gen Arimaa.Rt

set_option maxHeartbeats 1000000 in
theorem bridge_PieceBoardState_bits_by_piece_type : @Rs.PieceBoardState_bits_by_piece_type = @RsBase.PieceBoardState_bits_by_piece_type := by
  funext a0 a1
  rs_ladder [Rs.PieceBoardState_bits_by_piece_type, RsBase.PieceBoardState_bits_by_piece_type] [] (cases a1) [Rs.PieceBoardState_bits_by_piece_type, RsBase.PieceBoardState_bits_by_piece_type]

end Arimaa.Gen.Bridge
