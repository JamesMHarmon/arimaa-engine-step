-- GENERATED by /verif/tools/gen.py -- do not edit.  Bridge from the current text of `GameState::transposition_hash` to the baseline text.
import Arimaa.Gen.Rs
import Arimaa.Gen.RsBase
import Arimaa.Gen.BridgeLadder
import Arimaa.Gen.Bridge.Zobrist_board_state_hash
import Arimaa.Gen.Bridge.Zobrist_board_state_hash_with_push_pull_state

namespace Arimaa.Gen.Bridge
open Arimaa Arimaa.Gen Arimaa.Rt

set_option maxHeartbeats 1000000 in
theorem bridge_GameState_transposition_hash : @Rs.GameState_transposition_hash = @RsBase.GameState_transposition_hash := by
  funext a0
  rs_ladder [Rs.GameState_transposition_hash, RsBase.GameState_transposition_hash, bridge_Zobrist_board_state_hash, bridge_Zobrist_board_state_hash_with_push_pull_state] [RsBase.Zobrist_board_state_hash, RsBase.Zobrist_board_state_hash_with_push_pull_state] (skip) [Rs.GameState_transposition_hash, RsBase.GameState_transposition_hash, Rs.Zobrist_board_state_hash, Rs.Zobrist_board_state_hash_with_push_pull_state, Rs.pull_piece_value, Rs.push_piece_value, RsBase.Zobrist_board_state_hash, RsBase.Zobrist_board_state_hash_with_push_pull_state, RsBase.pull_piece_value, RsBase.push_piece_value]

end Arimaa.Gen.Bridge
