-- GENERATED by /verif/tools/gen.py -- do not edit.  Bridge from the current text of `GameState::new` to the baseline text.
import Arimaa.Gen.Rs
import Arimaa.Gen.RsBase
import Arimaa.Gen.BridgeLadder

namespace Arimaa.Gen.Bridge
open Arimaa Arimaa.Gen Arimaa.Rt

set_option maxHeartbeats 1000000 in
theorem bridge_GameState_new : @Rs.GameState_new = @RsBase.GameState_new := by
  funext a0 a1 a2 a3 a4
  rs_ladder [Rs.GameState_new, RsBase.GameState_new] [] (cases a0) [Rs.GameState_new, RsBase.GameState_new]

end Arimaa.Gen.Bridge
