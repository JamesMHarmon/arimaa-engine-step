import Arimaa.Lemmas.HashInv
import Arimaa.Lemmas.Material
import Arimaa.Lemmas.Sim
import Arimaa.Lemmas.StartInv

/-!
Ghost history of start-of-turn positions (`turnStarts`: the exact (board, side) pairs, obtained by
re-running the actions) and the invariant `HistInv` that ties the engine's hash bookkeeping (`hash`,
`initHash`, `hist`, `trapped`) to it: the hashes are from-scratch hashes, `hist` lists those of the
positions since the last capture, and older positions have more pieces (`pc`).  A pass and a fourth
step are treated once: both lead to `turnEndState`, and the repetition test is one test on the successor's
hash; against exact positions it says that the new position `Repeats`.  `neverForget`, the variant state
that never clears its history, offers the same actions under `CollisionFree`.
-/
namespace Arimaa
open Gen GameState

def zPosP (p : Board × Bool) : BB := zPos p.1 p.2

def endsTurnAt (s : GameState) (a : Action) : Bool :=
  match s.phase with
  | .play pp => endsTurn pp a
  | .place => false

theorem endsTurnAt_play (s : GameState) (pp : PlayPhase) (hph : s.phase = .play pp) (a : Action) :
    endsTurnAt s a = endsTurn pp a := by
  unfold endsTurnAt; rw [hph]

def posOf (s : GameState) : Board × Bool := (s.board, s.p1Turn)

def ghostStep (s : GameState) (G : List (Board × Bool)) (a : Action) : List (Board × Bool) :=
  if endsTurnAt s a then G ++ [posOf (s.takeAction a)] else G

def turnStartsFrom (s : GameState) (G : List (Board × Bool)) : List Action → List (Board × Bool)
  | [] => G
  | a :: as => turnStartsFrom (s.takeAction a) (ghostStep s G a) as

/-- oldest first: `s0`'s own position, then the position after every turn-ending action (so if the last action
ended a turn, the last entry is the current position) -/
def turnStarts (s0 : GameState) (as : List Action) : List (Board × Bool) :=
  turnStartsFrom s0 [posOf s0] as

def tsb (G : List (Board × Bool)) : Board :=
  match G.getLast? with
  | some p => p.1
  | none => default

def turnStartBoard (s0 : GameState) (as : List Action) : Board := tsb (turnStarts s0 as)

theorem turnStartsFrom_snoc (s : GameState) (G : List (Board × Bool)) (as : List Action) (a : Action) :
    turnStartsFrom s G (as ++ [a]) = ghostStep (s.run as) (turnStartsFrom s G as) a := by
  induction as generalizing s G with
  | nil => rfl
  | cons b as ih => exact ih _ _

theorem turnStarts_nil (s0 : GameState) : turnStarts s0 [] = [posOf s0] := rfl

theorem turnStarts_snoc (s0 : GameState) (as : List Action) (a : Action) :
    turnStarts s0 (as ++ [a]) =
      if endsTurnAt (s0.run as) a then turnStarts s0 as ++ [posOf (s0.run (as ++ [a]))]
      else turnStarts s0 as := by
  unfold turnStarts
  rw [turnStartsFrom_snoc, ghostStep, run_append]
  rfl

theorem tsb_concat (G : List (Board × Bool)) (p : Board × Bool) : tsb (G ++ [p]) = p.1 := by
  unfold tsb; rw [List.getLast?_concat]

/-- `hist` describes the list `G` at measure `n`: it lists, newest first, the values `z` of a suffix
`recent` of `G`; every entry before that suffix has measure above `n`, every entry of it at least `n`.
(For the engine: `G` the start-of-turn positions, `z` their hash, `μ` the piece count and `n` that of
the current board, so an entry lies before the suffix iff a capture happened since.) -/
def Recent {α : Type} (z : α → BB) (μ : α → Nat) (n : Nat) (G : List α) (hist : List BB) : Prop :=
  ∃ old recent, G = old ++ recent ∧ hist = (recent.map z).reverse ∧
    (∀ p ∈ old, n < μ p) ∧ (∀ p ∈ recent, n ≤ μ p)

namespace Recent
variable {α : Type} {z : α → BB} {μ : α → Nat} {n n' : Nat} {G : List α} {hist : List BB}

theorem all_ge (h : Recent z μ n G hist) : ∀ p ∈ G, n ≤ μ p := by
  obtain ⟨old, recent, rfl, _, ho, hr⟩ := h
  exact fun p hp => (List.mem_append.mp hp).elim (fun hp => Nat.le_of_lt (ho p hp)) (hr p)

theorem all (h : ∀ p ∈ G, n ≤ μ p) : Recent z μ n G (G.map z).reverse :=
  ⟨[], G, rfl, rfl, nofun, h⟩

theorem step (h : Recent z μ n G hist) (cap : Bool) (hle : n' ≤ n) (hlt : cap = true → n' < n) :
    Recent z μ n' G (if cap then [] else hist) := by
  cases cap
  · obtain ⟨old, recent, hG, hh, ho, hr⟩ := h
    exact ⟨old, recent, hG, hh, fun p hp => Nat.lt_of_le_of_lt hle (ho p hp),
      fun p hp => Nat.le_trans hle (hr p hp)⟩
  · exact ⟨G, [], (List.append_nil G).symm, rfl,
      fun p hp => Nat.lt_of_lt_of_le (hlt rfl) (h.all_ge p hp), nofun⟩

theorem push (h : Recent z μ n G hist) (p : α) (hp : n ≤ μ p) :
    Recent z μ n (G ++ [p]) (z p :: hist) := by
  obtain ⟨old, recent, rfl, rfl, ho, hr⟩ := h
  refine ⟨old, recent ++ [p], (List.append_assoc ..), ?_, ho, fun q hq => ?_⟩
  · rw [List.map_append, List.reverse_append]; rfl
  · rcases List.mem_append.mp hq with hq | hq
    · exact hr q hq
    · rw [List.mem_singleton.mp hq]; exact hp

theorem of_nil (h : Recent z μ n G []) : ∀ p ∈ G, n < μ p := by
  obtain ⟨old, recent, rfl, hh, ho, _⟩ := h
  rw [eq_comm, List.reverse_eq_nil_iff, List.map_eq_nil_iff] at hh
  subst hh
  simpa using ho

variable [BEq α] [LawfulBEq α]

/-- equal entries have equal values: an entry of measure at most `n` occurs in `G` only inside the
suffix, and there as often as its value in `hist` at most -/
theorem count_le (h : Recent z μ n G hist) (q : α) (hq : μ q ≤ n) :
    G.count q ≤ hist.count (z q) := by
  obtain ⟨old, recent, rfl, rfl, ho, _⟩ := h
  rw [List.count_append, List.count_eq_zero_of_not_mem fun hm => Nat.lt_irrefl _ (Nat.lt_of_lt_of_le (ho q hm) hq),
    Nat.zero_add, List.count_reverse]
  exact List.count_le_count_map

theorem count_ge (h : Recent z μ n G hist) (q : α) (hinj : ∀ p ∈ G, z p = z q → p = q) :
    hist.count (z q) ≤ G.count q := by
  obtain ⟨old, recent, rfl, rfl, _, _⟩ := h
  -- an entry of `recent` with the value of `q` is `q` (`hinj`), so `hist` counts `q` in `recent`, a part of `G`
  rw [List.count_reverse, List.count_append, List.count, List.countP_map, List.count]
  refine Nat.le_trans (List.countP_mono_left fun p hp hpq => ?_) (Nat.le_add_left _ _)
  simp only [Function.comp, beq_iff_eq] at hpq
  simp [hinj p (List.mem_append_right _ hp) hpq]

end Recent

/-- `G` is the list of start-of-turn positions so far, oldest first; the last one is the start of the current turn -/
structure HistInv (G : List (Board × Bool)) (s : GameState) (pp : PlayPhase) : Prop where
  inv : PlayInv s pp
  hash : s.hash = zFromPieceBoard s.board s.p1Turn pp.step
  last : G.getLast? = some (tsb G, s.p1Turn)
  init : pp.initHash = zPos (tsb G) s.p1Turn
  first : (pp.prev ++ [s.board]).head? = some (tsb G)
  recent : Recent zPosP (fun p => pc p.1) (pc s.board) G pp.hist
  trapped : pp.trapped = true → pp.hist = []

theorem histInv_start (s0 : GameState) (h : StartOk s0) :
    HistInv [posOf s0] s0 (PlayPhase.initial s0.hash [s0.hash]) := by
  refine ⟨h.playInv, h.hash, rfl, h.hash, rfl, ?_, nofun⟩
  have := Recent.all (z := zPosP) (μ := fun p => pc p.1) (n := pc s0.board) (G := [posOf s0])
    (by simp [posOf])
  rwa [show ([posOf s0].map zPosP).reverse = [s0.hash] by rw [h.hash]; rfl] at this

theorem HistInv.tsb_mem {G : List (Board × Bool)} {s : GameState} {pp : PlayPhase}
    (h : HistInv G s pp) : (tsb G, s.p1Turn) ∈ G := List.mem_of_getLast? h.last

/-- `pass` clears the history if `trapped`; under the invariant it is empty then anyway -/
theorem HistInv.hist_of_trapped {G : List (Board × Bool)} {s : GameState} {pp : PlayPhase}
    (h : HistInv G s pp) : (if pp.trapped then [] else pp.hist) = pp.hist := by
  cases hT : pp.trapped
  · rfl
  · exact (h.trapped hT).symm

theorem zPos_switch_side (b : Board) (side : Bool) : zPos b (!side) ^^^ Z_PLAYER_TO_MOVE = zPos b side :=
  zFromPieceBoard_switch_side b side 0

def repeatsHash (pp : PlayPhase) (h' : BB) : Bool :=
  (h' ^^^ Z_PLAYER_TO_MOVE == pp.initHash) || histContainsTwice pp.hist h'

/-- `withheld` of an action of the rule-only list, pass and fourth step alike, read off the hash of
the successor state (any state, any hash: no invariant) -/
theorem withheld_eq_repeatsHash (s : GameState) (pp : PlayPhase) (hph : s.phase = .play pp) (a : Action)
    (ha : a ∈ s.validActionsNoRep) :
    s.withheld pp a =
      ((a == .pass || pp.step == 3 && !pp.trapped) && repeatsHash pp (s.takeAction a).hash) := by
  cases a with
  | place p => exact absurd ha (validActions_play_notPlace s pp hph false p)
  | pass =>
    have hh : (s.takeAction .pass).hash = zPass s.hash pp.step := congrArg GameState.hash (pass_play s pp hph)
    -- the rule part of `can_pass` holds, so `withheld` is the negated repetition part
    have hcf := (pass_mem_validActions__iff s false).mp ha
    have hrule : (decide (pp.step ≥ 1) && !pp.pps.isMustCompletePush) = true := by
      rw [canPass_play s pp hph] at hcf
      simpa using hcf
    rw [withheld_pass, hcf, canPass_play s pp hph true, hrule, hh, repeatsHash, ← zExcludeStep_eq_pass,
      BEq.comm (a := zExcludeStep s.hash pp.step), bne]
    generalize (pp.initHash == zExcludeStep s.hash pp.step) = x
    generalize histContainsTwice pp.hist (zPass s.hash pp.step) = y
    cases x <;> cases y <;> rfl
  | move sq d =>
    cases h3 : pp.step == 3
    · rw [withheld, h3]; rfl
    · have hh : (s.takeAction (.move sq d)).hash =
          zMovePiece s.hash s.p1Turn s.board pp.step (s.board.takeMove sq d).1 0 (!s.p1Turn) :=
        congrArg GameState.hash (movePiece_ge3 s pp hph sq d (Nat.le_of_eq (beq_iff_eq.mp h3).symm))
      rw [hh, repeatsHash, ← zMovePiece_noSwitch, withheld, h3]
      rfl

/-- what a turn-ending action of the rule-only list does, pass and fourth step alike: it leads to
`turnEndState` for a board with no more pieces (fewer after a capture, which clears the history) -/
theorem turnEnd_cases (G : List (Board × Bool)) (s : GameState) (pp : PlayPhase) (h : HistInv G s pp)
    (a : Action) (ha : a ∈ s.validActionsNoRep) (he : endsTurn pp a = true) :
    ∃ nb cap, s.takeAction a = turnEndState s pp nb cap ∧ pc nb ≤ pc s.board ∧
      (cap = true → pc nb < pc s.board) := by
  cases a with
  | place p => cases he
  | pass =>
    refine ⟨s.board, false, ?_, Nat.le_refl _, nofun⟩
    show s.pass = _
    rw [pass_turnEnd s pp h.inv.phase h.hash, turnEndState, turnEndState, turnEnd, turnEnd, h.hist_of_trapped]
    rfl
  | move sq d =>
    obtain ⟨hle, hlt⟩ := pc_offered_step s pp h.inv sq d ha
    exact ⟨_, _, movePiece_turnEnd s pp h.inv.phase h.hash sq d (by simpa [endsTurn] using he), hle, hlt⟩

/-- `withheld_eq_repeatsHash` read at `turnEndState`: the repetition test of a turn-ending action, on
the board `nb` it leads to.  No ghost list: the successor's hash is all that enters. -/
theorem withheld_turnEnd_iff (s : GameState) (pp : PlayPhase) (h : PlayInv s pp) (a : Action)
    (ha : a ∈ s.validActionsNoRep) (he : endsTurn pp a = true) (nb : Board) (cap : Bool)
    (hst : s.takeAction a = turnEndState s pp nb cap) :
    s.withheld pp a = true ↔ (a = .pass ∨ pp.trapped = false) ∧
      (pp.initHash = zPos nb s.p1Turn ∨ histContainsTwice pp.hist (zPos nb (!s.p1Turn)) = true) := by
  rw [withheld_eq_repeatsHash s pp h.phase a ha, hst]
  show ((a == .pass || pp.step == 3 && !pp.trapped) &&
    ((zPos nb (!s.p1Turn) ^^^ Z_PLAYER_TO_MOVE == pp.initHash) ||
      histContainsTwice pp.hist (zPos nb (!s.p1Turn)))) = true ↔ _
  rw [zPos_switch_side]
  simp only [Bool.and_eq_true, Bool.or_eq_true, beq_iff_eq, Bool.not_eq_true', eq_comm (a := zPos nb s.p1Turn)]
  refine and_congr ?_ Iff.rfl
  -- a turn-ending action other than the pass is a step at step 3
  cases a with
  | place p => cases he
  | pass => exact ⟨fun _ => Or.inl rfl, fun _ => Or.inl rfl⟩
  | move sq d =>
    rw [Nat.le_antisymm h.step_le (by simpa [endsTurn] using he)]
    exact or_congr_right ⟨And.right, fun h => ⟨rfl, h⟩⟩

theorem histInv_step (G : List (Board × Bool)) (s : GameState) (pp : PlayPhase) (h : HistInv G s pp)
    (a : Action) (ha : a ∈ s.validActionsNoRep) :
    ∃ pp', HistInv (ghostStep s G a) (s.takeAction a) pp' := by
  have hph := h.inv.phase
  cases he : endsTurn pp a
  · -- a step in the middle of the turn: the ghost list stays, the board may lose a piece
    cases a with
    | pass => cases he
    | place p => exact absurd ha (validActions_play_notPlace s pp hph false p)
    | move sq d =>
      have hstep : pp.step < 3 := by simpa [endsTurn] using he
      obtain ⟨hle, hlt⟩ := pc_offered_step s pp h.inv sq d ha
      have hgs : ghostStep s G (.move sq d) = G := by
        unfold ghostStep; rw [endsTurnAt_play s pp hph, he]; rfl
      have hst : s.takeAction (.move sq d) = _ := movePiece_lt3 s pp hph sq d hstep
      have hinv' := playInv_of_step s pp h.inv (.move sq d) ha _ (by rw [hst])
      have hhash := takeAction_hash_scratch s pp hph h.hash (.move sq d) rfl _ (by rw [hst])
      rw [hst] at hinv' hhash
      rw [hgs, hst]
      refine ⟨_, hinv', hhash, h.last, h.init, ?_, h.recent.step _ hle hlt, ?_⟩
      · show (pp.prev ++ [s.board] ++ [_]).head? = _
        rw [head?_snoc_snoc]; exact h.first
      · show (pp.trapped || (s.board.takeMove sq d).2) = true →
          (if (s.board.takeMove sq d).2 then [] else pp.hist) = []
        cases (s.board.takeMove sq d).2
        · rw [Bool.or_false]; exact h.trapped
        · exact fun _ => rfl
  · -- the turn ends: the same, and the new position is appended
    obtain ⟨nb, cap, hst, hle, hlt⟩ := turnEnd_cases G s pp h a ha he
    have hgs : ghostStep s G a = G ++ [(nb, !s.p1Turn)] := by
      unfold ghostStep; rw [endsTurnAt_play s pp hph, he, hst]; rfl
    have hinv' := playInv_of_step s pp h.inv a ha _ (by rw [hst]; rfl)
    rw [hst] at hinv'
    rw [hgs, hst]
    refine ⟨_, hinv', rfl, ?_, ?_, ?_, (h.recent.step cap hle hlt).push (nb, !s.p1Turn) (Nat.le_refl _),
      nofun⟩
    · rw [List.getLast?_concat, tsb_concat]; rfl
    · rw [tsb_concat]; rfl
    · rw [tsb_concat]; rfl

theorem histInv_run (G : List (Board × Bool)) (s : GameState) (pp : PlayPhase) (h : HistInv G s pp)
    (as : List Action) (ho : OfferedNR s as) :
    ∃ pp', HistInv (turnStartsFrom s G as) (s.run as) pp' := by
  induction as generalizing s G pp with
  | nil => exact ⟨pp, h⟩
  | cons a as ih =>
    obtain ⟨pp1, h1⟩ := histInv_step G s pp h a ho.1
    exact ih _ _ pp1 h1 ho.2

theorem histInv_game (s0 : GameState) (h0 : StartOk s0) (as : List Action) (ho : OfferedNR s0 as) :
    ∃ pp, HistInv (turnStarts s0 as) (s0.run as) pp :=
  histInv_run _ s0 _ (histInv_start s0 h0) as ho

theorem histInv_game_of_phase (s0 : GameState) (h0 : StartOk s0) (as : List Action) (ho : OfferedNR s0 as)
    (pp : PlayPhase) (hph : (s0.run as).phase = .play pp) :
    HistInv (turnStarts s0 as) (s0.run as) pp := by
  obtain ⟨pp', h⟩ := histInv_game s0 h0 as ho
  cases play_inj hph h.inv.phase
  exact h

/-- taking the position `p` now breaks a repetition rule: its board is the turn-start board, or `p`
already occurred twice at a start of turn -/
def Repeats (G : List (Board × Bool)) (p : Board × Bool) : Prop := p.1 = tsb G ∨ 2 ≤ G.count p

theorem not_repeats_iff (G : List (Board × Bool)) (p : Board × Bool) :
    ¬ Repeats G p ↔ p.1 ≠ tsb G ∧ G.count p ≤ 1 := by
  rw [Repeats, not_or, Nat.not_le, Nat.lt_succ_iff]

/-- soundness of the engine's repetition test; needs only "equal positions have equal hashes" -/
theorem withheld_of_repeat (G : List (Board × Bool)) (s : GameState) (pp : PlayPhase)
    (h : HistInv G s pp) (a : Action) (ha : a ∈ s.validActionsNoRep) (he : endsTurn pp a = true)
    (hrep : Repeats G (posOf (s.takeAction a))) : s.withheld pp a = true := by
  obtain ⟨nb, cap, hst, hle, _⟩ := turnEnd_cases G s pp h a ha he
  have hw := withheld_turnEnd_iff s pp h.inv a ha he nb cap hst
  rw [hst] at hrep
  change nb = tsb G ∨ 2 ≤ G.count (nb, !s.p1Turn) at hrep
  refine hw.mpr ⟨?_, ?_⟩
  · -- after a capture in this turn the history is empty, so all of `G` has more pieces than `nb`
    cases hT : pp.trapped
    · exact Or.inr rfl
    · exfalso
      have hold := (h.trapped hT ▸ h.recent).of_nil
      have hmem : ∃ sd, (nb, sd) ∈ G := by
        rcases hrep with hrep | hrep
        · exact ⟨_, hrep ▸ h.tsb_mem⟩
        · exact ⟨_, List.count_pos_iff.mp (Nat.lt_of_lt_of_le Nat.zero_lt_two hrep)⟩
      obtain ⟨sd, hm⟩ := hmem
      exact Nat.lt_irrefl _ (Nat.lt_of_lt_of_le (hold _ hm) hle)
  · rcases hrep with hrep | hrep
    · exact Or.inl (by rw [h.init, hrep])
    · exact Or.inr ((histContainsTwice_iff _ _).mpr
        (Nat.le_trans hrep (h.recent.count_le (nb, !s.p1Turn) hle)))

theorem no_repeat_of_offered (G : List (Board × Bool)) (s : GameState) (pp : PlayPhase)
    (h : HistInv G s pp) (a : Action) (ha : a ∈ s.validActions) (he : endsTurn pp a = true) :
    ¬ Repeats G (posOf (s.takeAction a)) := fun hr => by
  obtain ⟨hin, hw⟩ := (mem_validActions_iff s pp h.inv.phase a).mp ha
  rw [withheld_of_repeat G s pp h a hin he hr] at hw
  cases hw

theorem repeat_of_withheld (G : List (Board × Bool)) (s : GameState) (pp : PlayPhase)
    (h : HistInv G s pp) (a : Action) (ha : a ∈ s.validActionsNoRep) (he : endsTurn pp a = true)
    (hcf : ∀ p ∈ G, ∀ sd, zPos p.1 p.2 = zPos (s.takeAction a).board sd → p = ((s.takeAction a).board, sd))
    (hw : s.withheld pp a = true) : Repeats G (posOf (s.takeAction a)) := by
  obtain ⟨nb, cap, hst, _, _⟩ := turnEnd_cases G s pp h a ha he
  have hw' := withheld_turnEnd_iff s pp h.inv a ha he nb cap hst
  rw [hst] at hcf ⊢
  change ∀ p ∈ G, ∀ sd, zPos p.1 p.2 = zPos nb sd → p = (nb, sd) at hcf
  change nb = tsb G ∨ 2 ≤ G.count (nb, !s.p1Turn)
  rcases (hw'.mp hw).2 with hm | hm
  · rw [h.init] at hm
    exact Or.inl (congrArg Prod.fst (hcf _ h.tsb_mem s.p1Turn hm)).symm
  · exact Or.inr (Nat.le_trans ((histContainsTwice_iff _ _).mp hm)
      (h.recent.count_ge (nb, !s.p1Turn) fun p hp => hcf p hp _))

theorem HistInv.pieceBoardForStep_zero {G : List (Board × Bool)} {s : GameState} {pp : PlayPhase}
    (h : HistInv G s pp) : s.pieceBoardForStep 0 = tsb G := by
  have hf := h.first
  unfold pieceBoardForStep
  rw [h.inv.phase]
  show (if 0 = pp.prev.length then s.board else pp.prev.getD 0 s.board) = tsb G
  revert hf
  cases pp.prev <;> simp

def neverForgetPP (pp : PlayPhase) (G : List (Board × Bool)) : PlayPhase :=
  { pp with hist := (G.map zPosP).reverse, trapped := false }

/-- the state as it would be if the engine never cleared `hash_history` at a capture (and hence
never needed `piece_trapped_this_turn`): same board, side, step, status, hash, turn-start hash -/
def neverForget (s : GameState) (pp : PlayPhase) (G : List (Board × Bool)) : GameState :=
  { s with phase := .play (neverForgetPP pp G) }

theorem HistInv.neverForget {G : List (Board × Bool)} {s : GameState} {pp : PlayPhase}
    (h : HistInv G s pp) : HistInv G (neverForget s pp G) (neverForgetPP pp G) :=
  ⟨⟨rfl, h.inv.wf, h.inv.pend, h.inv.step_le⟩, h.hash, h.last, h.init, h.first,
    Recent.all h.recent.all_ge, nofun⟩

theorem validActionsNoRep_neverForget (s : GameState) (pp : PlayPhase) (hph : s.phase = .play pp)
    (G : List (Board × Bool)) : (neverForget s pp G).validActionsNoRep = s.validActionsNoRep := by
  -- the generators and `canPass false` look at board, side, status and step only
  cases s with
  | mk t m ph b h =>
    cases hph
    rfl

theorem posOf_takeAction_neverForget (s : GameState) (pp : PlayPhase) (hph : s.phase = .play pp)
    (G : List (Board × Bool)) (a : Action) :
    posOf ((neverForget s pp G).takeAction a) = posOf (s.takeAction a) := by
  cases a with
  | place p => rfl
  | pass => simp [takeAction, pass, hph, neverForget, posOf]
  | move sq d =>
    by_cases h3 : 3 ≤ pp.prev.length <;>
      simp [takeAction, movePiece, hph, neverForget, neverForgetPP, posOf, PlayPhase.step, h3]

/-- no position of `G` has the hash of one of the boards `results` taken with either side to move,
unless it is that board with that side -/
def CollisionFree (G : List (Board × Bool)) (results : List Board) : Prop :=
  ∀ nb ∈ results, ∀ p ∈ G, ∀ sd, zPos p.1 p.2 = zPos nb sd → p = (nb, sd)

def turnEndResults (s : GameState) (pp : PlayPhase) : List Board :=
  (s.validActionsNoRep.filter (endsTurn pp)).map (fun a => (s.takeAction a).board)

theorem mem_turnEndResults (s : GameState) (pp : PlayPhase) (a : Action)
    (ha : a ∈ s.validActionsNoRep) (he : endsTurn pp a = true) :
    (s.takeAction a).board ∈ turnEndResults s pp :=
  List.mem_map.mpr ⟨a, List.mem_filter.mpr ⟨ha, he⟩, rfl⟩

/-- what the repetition rules withhold, on exact boards: the turn-ending actions that lead to a repetition -/
theorem withheld_iff_repeat (G : List (Board × Bool)) (s : GameState) (pp : PlayPhase)
    (h : HistInv G s pp) (a : Action) (ha : a ∈ s.validActionsNoRep)
    (hcf : CollisionFree G (turnEndResults s pp)) :
    s.withheld pp a = true ↔ endsTurn pp a = true ∧ Repeats G (posOf (s.takeAction a)) := by
  cases he : endsTurn pp a
  · rw [withheld_false_of_not_endsTurn s pp a he]
    exact ⟨nofun, fun h => nomatch h.1⟩
  · exact ⟨fun hw => ⟨rfl, repeat_of_withheld G s pp h a ha he (hcf _ (mem_turnEndResults s pp a ha he)) hw⟩,
      fun hr => withheld_of_repeat G s pp h a ha he hr.2⟩

theorem mem_validActions_iff_repeat (G : List (Board × Bool)) (s : GameState) (pp : PlayPhase)
    (h : HistInv G s pp) (hcf : CollisionFree G (turnEndResults s pp)) (a : Action) :
    a ∈ s.validActions ↔
      a ∈ s.validActionsNoRep ∧ ¬ (endsTurn pp a = true ∧ Repeats G (posOf (s.takeAction a))) := by
  rw [mem_validActions_iff s pp h.inv.phase a]
  exact and_congr_right fun ha => by rw [← withheld_iff_repeat G s pp h a ha hcf, Bool.not_eq_true]

theorem validActions_neverForget (G : List (Board × Bool)) (s : GameState) (pp : PlayPhase)
    (h : HistInv G s pp) (hcf : CollisionFree G (turnEndResults s pp)) :
    s.validActions = (neverForget s pp G).validActions := by
  have hph := h.inv.phase
  have h' := h.neverForget
  have hnr := validActionsNoRep_neverForget s pp hph G
  have hres : turnEndResults (neverForget s pp G) (neverForgetPP pp G) = turnEndResults s pp := by
    unfold turnEndResults
    rw [hnr]
    exact List.map_congr_left fun b _ => congrArg Prod.fst (posOf_takeAction_neverForget s pp hph G b)
  rw [validActions_filter_shape s pp hph, validActions_filter_shape _ _ h'.inv.phase, hnr]
  refine List.filter_congr fun a ha => congrArg _ ?_
  -- both sides read the same condition on the same ghost list `G` (`endsTurn` looks at the step, which is `pp`'s)
  rw [Bool.eq_iff_iff, withheld_iff_repeat G s pp h a ha hcf,
    withheld_iff_repeat G _ _ h' a (hnr ▸ ha) (hres ▸ hcf), posOf_takeAction_neverForget s pp hph G a]
  exact Iff.rfl

end Arimaa
