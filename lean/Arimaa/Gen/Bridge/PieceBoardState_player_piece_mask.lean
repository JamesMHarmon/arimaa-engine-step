-- GENERATED by /verif/tools/gen.py -- do not edit.  Bridge from the current text of `PieceBoardState::player_piece_mask` to the baseline text.
import Arimaa.Gen.Rs
import Arimaa.Gen.RsBase
import Arimaa.Gen.BridgeLadder

namespace Arimaa.Gen.Bridge
open Arimaa Arimaa.Gen Arimaa.Rt

set_option maxHeartbeats 1000000 in
theorem bridge_PieceBoardState_player_piece_mask : @Rs.PieceBoardState_player_piece_mask = @RsBase.PieceBoardState_player_piece_mask := by
  funext a0 a1
  rs_ladder [Rs.PieceBoardState_player_piece_mask, RsBase.PieceBoardState_player_piece_mask] [] (cases a1) [Rs.PieceBoardState_player_piece_mask, RsBase.PieceBoardState_player_piece_mask]

end Arimaa.Gen.Bridge
