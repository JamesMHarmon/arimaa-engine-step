import Arimaa.Lemmas.PlayStart
import Arimaa.Lemmas.Pusher
import Arimaa.Props.C12
import Arimaa.Props.C13

/-!
C12 (continued) — while a push is pending there is at least one way to complete it.

`PlayInvP s pp` (Lemmas/Pusher.lean) = the play invariant `PlayInv s pp`, no unsupported trap piece
(`NoHanging`), and `PusherOk`: if the status is "push off `q` of a piece `v` pending" then an
unfrozen piece of the mover, strictly stronger than `v`, stands next to `q`.
-/
namespace Arimaa
open Spec GameState

/-- **The pusher survives the first half of a push** (specification level).  On a board without
unsupported trap pieces, let an enemy piece `c` on `i` be displaced to the empty neighbour `j`, and
let an unfrozen piece of the mover stronger than `s` stand next to `i`.  After the displacement and
the captures it causes, an unfrozen piece of the mover stronger than `s` still stands next to `i`. -/
theorem C12_pusher_survives (b : Spec.Board) (gold : Bool) (i j : Nat) (c : Cell) (hb : NoHanging b)
    (hc : b i = some c) (hg : c.gold ≠ gold) (d : Spec.Dir) (hn : nbr i d = some j) (hej : b j = none)
    (s : Nat) (hp : hasPusher b gold i s = true) :
    hasPusher (capture (move b i j)) gold i s = true :=
  pusher_survives b gold i j c hb hc hg hej d hn s hp

/-- **The pusher invariant is inductive**: it is kept by every action of the rule-only list. -/
theorem C12_pusher_invariant_step (s : GameState) (pp : PlayPhase) (h : PlayInvP s pp) (a : Action)
    (ha : a ∈ s.validActionsNoRep) : ∃ pp', PlayInvP (s.takeAction a) pp' :=
  playInvP_step s pp h a ha

/-- The pusher invariant holds along every run of actions each taken from the rule-only list. -/
theorem C12_pusher_invariant_run (s : GameState) (pp : PlayPhase) (h : PlayInvP s pp) (as : List Action)
    (ho : OfferedNR s as) : ∃ pp', PlayInvP (s.run as) pp' :=
  OfferedNR.induction playInvP_step s pp h as ho

/-- The pusher invariant holds after every finished setup, hence (with the previous theorem) in
every state reachable from the initial state by offered actions. -/
theorem C12_pusher_invariant_after_setup {ps : List Piece} {s : GameState} (hr : SetupRun ps s)
    (h32 : ps.length = 32) : ∃ pp, PlayInvP s pp ∧ pp.step = 0 :=
  ⟨_, playInvP_of_none s _ (setupRun_playInv hr h32) (C13_no_hanging_after_setup hr) rfl, rfl⟩

/-- **Every reachable play state satisfies the pusher invariant**: any finished setup followed by
any run of actions each taken from the rule-only list of the state where it is made. -/
theorem C12_pusher_invariant_reachable {ps : List Piece} {s0 : GameState} (hr : SetupRun ps s0)
    (h32 : ps.length = 32) (as : List Action) (ho : OfferedNR s0 as) : ∃ pp, PlayInvP (s0.run as) pp := by
  obtain ⟨pp0, h0, _⟩ := C12_pusher_invariant_after_setup hr h32
  exact C12_pusher_invariant_run s0 pp0 h0 as ho

/-- **While a push is pending there is at least one offered action**, namely a step of an unfrozen,
strictly stronger piece of the mover into the vacated square `q`.  (With `C12_push_pending_actions`:
the list consists exactly of such steps, and is not empty.) -/
theorem C12_push_pending_nonempty (s : GameState) (pp : PlayPhase) (h : PlayInvP s pp) (q : Nat) (v : Piece)
    (hp : pp.pps = .mustCompletePush q v) :
    (∃ x d, x < 64 ∧ pushEnd (absBoard s.board) s.p1Turn (.push q (toSpec v)) x (dirSpec d) = true ∧
      Action.move x d ∈ s.validActionsNoRep) ∧ s.validActionsNoRep ≠ [] := by
  obtain ⟨hinv, _, hpo⟩ := h
  have hpend := hinv.pend
  rw [hp] at hpend hpo
  obtain ⟨hq, hqe⟩ := hpend
  have hqn := (absBoard_eq_none_iff s.board hinv.wf q).mpr hqe
  obtain ⟨x, d', hx, hpe⟩ := pushEnd_of_pusher _ _ q (toSpec v) hq hqn hpo
  obtain ⟨d, rfl⟩ := dirSpec_surj d'
  have hmem := ((C12_push_pending_actions s pp hinv q v hp).1 x d).mpr ⟨hx, hpe⟩
  refine ⟨⟨x, d, hx, hpe, hmem⟩, ?_⟩
  intro e; rw [e] at hmem; cases hmem

/-- Gold to move at the start of a turn: Gold elephant d4 (35), Silver rabbit d5 (27), Gold rabbit
e1 (60), Silver rabbit b7 (9). -/
def exC12b : GameState :=
  { p1Turn := true, moveNo := 5, hash := 0
    board := Board.new (sqBit 35 ||| sqBit 60) (sqBit 35) 0 0 0 0 (sqBit 27 ||| sqBit 60 ||| sqBit 9)
    phase := .play (PlayPhase.initial 0 [0]) }

theorem exC12b_inv : PlayInvP exC12b (PlayPhase.initial 0 [0]) := by
  apply playInvP_of_none _ _ _ _ rfl
  · exact ⟨rfl, wf_of_wfWords _ (by decide +kernel), trivial, by decide⟩
  · intro k c hk hc ht
    have h4 : ∀ j : Fin 64, isTrap j.1 = true → absBoard exC12b.board j.1 = none := by decide +kernel
    rw [h4 ⟨k, hk⟩ ht] at hc
    cases hc

example : Action.move 27 .up ∈ exC12b.validActionsNoRep := by decide +kernel

example : ∃ pp', PlayInvP (exC12b.takeAction (.move 27 .up)) pp' ∧
    pp'.pps = .mustCompletePush 27 .rabbit := by
  obtain ⟨pp', h'⟩ := C12_pusher_invariant_step _ _ exC12b_inv (.move 27 .up) (by decide +kernel)
  refine ⟨pp', h', ?_⟩
  have hph := congrArg GameState.phase
    (movePiece_lt3 exC12b (PlayPhase.initial 0 [0]) rfl 27 .up (by decide))
  rw [play_inj h'.1.phase hph]
  decide +kernel

example : Action.move 35 .up ∈ (exC12b.takeAction (.move 27 .up)).validActionsNoRep := by decide +kernel

end Arimaa
