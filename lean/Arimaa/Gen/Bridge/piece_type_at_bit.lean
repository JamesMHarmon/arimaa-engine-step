-- GENERATED by /verif/tools/gen.py -- do not edit.  Bridge from the current text of `piece_type_at_bit` to the baseline text.
import Arimaa.Gen.Rs
import Arimaa.Gen.RsBase
import Arimaa.Gen.BridgeLadder

namespace Arimaa.Gen.Bridge
open Arimaa Arimaa.Gen Arimaa.Rt

set_option maxHeartbeats 1000000 in
theorem bridge_piece_type_at_bit : @Rs.piece_type_at_bit = @RsBase.piece_type_at_bit := by
  funext a0 a1
  rs_ladder [Rs.piece_type_at_bit, RsBase.piece_type_at_bit] [] (skip) [Rs.piece_type_at_bit, RsBase.piece_type_at_bit]

end Arimaa.Gen.Bridge
