import Arimaa.Lemmas.RsAgreeHash
import Arimaa.Gen.Bridge.Zobrist_from_piece_board

/-!
`Code.from_piece_board`, apart from `RsAgreeHash`: the importers of that module must not carry the bridge of
`Zobrist::from_piece_board` in their closure.
-/
namespace Arimaa.Code
open Arimaa.Gen.Rs Arimaa.Rt Arimaa.Gen.Bridge

theorem from_piece_board (b : Board) (p1 : Bool) (step : Nat) :
    Zobrist_from_piece_board b p1 step = Res.guard (zFromPieceBoardPanics b step) (zFromPieceBoard b p1 step) :=
  bridge_Zobrist_from_piece_board ▸ RsAgree.from_piece_board_eq b p1 step

end Arimaa.Code
