import Arimaa.Gen.Bridge.GameState_current_step
import Arimaa.Props.C19
import Arimaa.Lemmas.RsAgreeOffered
import Arimaa.Lemmas.RsAgreeResult
import Arimaa.Lemmas.RsAgreeStep
import Arimaa.Lemmas.RsAgreeTHash
import Arimaa.Lemmas.RsAgreePrevBoards
import Arimaa.Lemmas.RsAgreePreview
import Arimaa.Lemmas.CodeRuleOnly
import Arimaa.Lemmas.RsAgreeGen

/-!
C19 for the regenerated code (`Gen/Rs.lean`): no public query and no offered action of the regenerated code returns
`panic` on a state satisfying the play invariant; each returns exactly the value of the total model.
-/
namespace Arimaa
open Arimaa.Gen.Rs Arimaa.Gen.Bridge
open RsAgree (ok_of_guard)

/-- **C19 for the code as it is now** (play phase): every listed query of the regenerated code returns a
value — the one the total model computes — and so do `take_action` and the capture preview for every
action of the rule-only list, and `piece_board_for_step` for every step index of the turn. -/
theorem C19_code_no_panic_play (s : GameState) (pp : PlayPhase) (h : PlayInv s pp)
    (hh : StatusHashable pp.pps) (hm : s.moveNo < usizeMax) :
    GameState_valid_actions s = .ok s.validActions ∧
    GameState_valid_actions_no_rep s = .ok s.validActionsNoRep ∧
    GameState_is_terminal s = .ok s.isTerminal ∧
    GameState_has_move s s.board = .ok (s.hasMove s.board) ∧
    GameState_can_pass s false = .ok (s.canPass false) ∧
    GameState_can_pass s true = .ok (s.canPass true) ∧
    GameState_transposition_hash s = .ok s.transpositionHash ∧
    GameState_current_step s = .ok s.step ∧
    (∀ a ∈ s.validActionsNoRep,
      GameState_take_action s a = .ok (s.takeAction a) ∧
      GameState_trapped_animal_for_action s a = .ok (s.trappedAnimalForAction a)) ∧
    (∀ i, i ≤ pp.step → GameState_piece_board_for_step s i = .ok (s.pieceBoardForStep i)) := by
  obtain ⟨⟨h1, h2, h3, h4, h5, h6, h7, _, h9⟩, hact, hpbs, _⟩ := C19_no_panic_play s pp h hh hm
  exact ⟨ok_of_guard (Code.valid_actions s) h1, ok_of_guard (Code.valid_actions_no_rep s) h2,
    ok_of_guard (Code.is_terminal s) h3, ok_of_guard (Code.has_move s _) h4, ok_of_guard (Code.can_pass s _) h5,
    ok_of_guard (Code.can_pass s _) h6, ok_of_guard (Code.transposition_hash s) h7,
    ok_of_guard (bridge_GameState_current_step ▸ RsAgree.current_step s) h9,
    fun a ha => ⟨ok_of_guard (Code.take_action s a) (hact a ha).2.1,
      ok_of_guard (Code.trapped_animal_for_action s a) (hact a ha).1⟩,
    fun i hi => ok_of_guard (Code.piece_board_for_step s i) (hpbs i hi)⟩

/-- the overflow point F4 is a panic of the regenerated code as well: the model-level statement and the code agree -/
theorem C19_code_overflow_point (s : GameState) (pp : PlayPhase) (hph : s.phase = .play pp)
    (hside : s.p1Turn = false) (hmax : s.moveNo = usizeMax) :
    GameState_take_action s .pass = .panic := by
  rw [Code.take_action]
  rw [show s.takeActionPanics .pass = true from (C19_overflow_point s pp hph hmax hside).1]; rfl

/-- **C19 for the code as it is now, every reachable state** (the initial state, every state a diagram parses to,
and everything reached from those through the rule-only lists — setup included): no listed query of the
regenerated code panics, nor do `take_action` and the capture preview for any offered action, nor — in play —
`current_step` and `piece_board_for_step i` for `i ≤ step`; each returns the value of the total model.  The only
hypothesis is the machine-integer bound of finding F4. -/
theorem C19_code_no_panic (s : GameState) (hr : NoPanic.Reach s) (hm : s.moveNo < usizeMax) :
    GameState_valid_actions s = .ok s.validActions ∧
    GameState_valid_actions_no_rep s = .ok s.validActionsNoRep ∧
    GameState_is_terminal s = .ok s.isTerminal ∧
    GameState_has_move s s.board = .ok (s.hasMove s.board) ∧
    GameState_can_pass s false = .ok (s.canPass false) ∧
    GameState_can_pass s true = .ok (s.canPass true) ∧
    GameState_transposition_hash s = .ok s.transpositionHash ∧
    (∀ a ∈ s.validActionsNoRep,
      GameState_take_action s a = .ok (s.takeAction a) ∧
      GameState_trapped_animal_for_action s a = .ok (s.trappedAnimalForAction a)) ∧
    (∀ pp, s.phase = .play pp →
      GameState_current_step s = .ok s.step ∧
      ∀ i, i ≤ pp.step → GameState_piece_board_for_step s i = .ok (s.pieceBoardForStep i)) := by
  obtain ⟨⟨h1, h2, h3, h4, h5, h6, h7, _⟩, hact, _, hplay⟩ := C19_no_panic s hr hm
  exact ⟨ok_of_guard (Code.valid_actions s) h1, ok_of_guard (Code.valid_actions_no_rep s) h2,
    ok_of_guard (Code.is_terminal s) h3, ok_of_guard (Code.has_move s _) h4, ok_of_guard (Code.can_pass s _) h5,
    ok_of_guard (Code.can_pass s _) h6, ok_of_guard (Code.transposition_hash s) h7,
    fun a ha => ⟨ok_of_guard (Code.take_action s a) (hact a ha).2.1,
      ok_of_guard (Code.trapped_animal_for_action s a) (hact a ha).1⟩,
    fun pp hph => ⟨ok_of_guard (bridge_GameState_current_step ▸ RsAgree.current_step s) (hplay pp hph).1,
      fun i hi => ok_of_guard (Code.piece_board_for_step s i) ((hplay pp hph).2 i hi)⟩⟩

end Arimaa
