-- GENERATED by /verif/tools/gen.py -- do not edit.  Bridge from the current text of `PlayPhase::step` to the baseline text.
import Arimaa.Gen.Rs
import Arimaa.Gen.RsBase
import Arimaa.Gen.BridgeLadder

namespace Arimaa.Gen.Bridge
open Arimaa Arimaa.Gen Arimaa.Rt

set_option maxHeartbeats 1000000 in
theorem bridge_PlayPhase_step : @Rs.PlayPhase_step = @RsBase.PlayPhase_step := by
  funext a0
  rs_ladder [Rs.PlayPhase_step, RsBase.PlayPhase_step] [] (skip) [Rs.PlayPhase_step, RsBase.PlayPhase_step]

end Arimaa.Gen.Bridge
