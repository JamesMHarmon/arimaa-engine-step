import Arimaa.Lemmas.Offered
import Arimaa.Lemmas.Capture

/-!
The two bit-level bridges from the model to the rules: the four generators together list the steps
that `Spec.enabledMove` allows (`enabled_iff`), and `next_push_pull_state` is `Spec.nextPending`
(`nextStatus_eq`).  `PlayInv` is what both need of a play state, a well-formed board and a status that names
an empty square, together with `step ≤ 3`, which neither uses: it comes along because every enabled action
re-establishes it.
-/
namespace Arimaa
open Spec GameState

theorem enabled_iff (s : GameState) (pp : PlayPhase) (hph : s.phase = .play pp) (hw : WF s.board)
    (hp : PendOk s.board pp.pps) (i : Nat) (d : Dir) :
    Action.move i d ∈ s.validActionsNoRep ↔
      i < 64 ∧ enabledMove (absBoard s.board) s.p1Turn pp.step (absPend pp.pps) i (dirSpec d) = true := by
  rw [move_mem_noRep_iff s pp hph]
  unfold moveList enabledMove
  rw [absPend_isPush]
  cases hm : pp.pps.isMustCompletePush
  · simp only [Bool.false_eq_true, if_false, List.mem_append, stepList, mem_pullExtend,
      pushActions_iff s pp s.board hw, pullExtend_iff s pp s.board hw hp, ownMoves_iff s s.board hw, hm,
      true_and, Bool.or_eq_true, ← and_or_left]
    -- the list is built in the order push, pull, own; the rule reads own ∨ push ∨ pull
    exact and_congr_right fun _ => by rw [or_comm, or_assoc]
  · exact mustCompletePushActions_iff s pp s.board hw hp i d

structure PlayInv (s : GameState) (pp : PlayPhase) : Prop where
  phase : s.phase = .play pp
  wf : WF s.board
  pend : PendOk s.board pp.pps
  step_le : pp.step ≤ 3

theorem PlayInv.enabled_iff {s : GameState} {pp : PlayPhase} (h : PlayInv s pp) (i : Nat) (d : Dir) :
    Action.move i d ∈ s.validActionsNoRep ↔
      i < 64 ∧ enabledMove (absBoard s.board) s.p1Turn pp.step (absPend pp.pps) i (dirSpec d) = true :=
  Arimaa.enabled_iff s pp h.phase h.wf h.pend i d

structure OfferedStep (β : Spec.Board) (i : Nat) (d : Spec.Dir) (c : Cell) (j : Nat) : Prop where
  src_lt : i < 64
  src : β i = some c
  nbr_eq : nbr i d = some j
  dst_lt : j < 64
  dst_empty : β j = none

theorem offered_step_facts (s : GameState) (pp : PlayPhase) (h : PlayInv s pp) (i : Nat) (d : Dir)
    (ha : Action.move i d ∈ s.validActionsNoRep) : ∃ c j, OfferedStep (absBoard s.board) i (dirSpec d) c j := by
  obtain ⟨hi, he⟩ := (h.enabled_iff i d).mp ha
  obtain ⟨c, j, hc, hn, hj, _⟩ := enabled_cases _ _ _ _ _ _ he
  exact ⟨c, j, hi, hc, hn, nbr_lt i j _ hi hn, hj⟩

theorem isTheirPiece_eq (s : GameState) (b : Board) (i : Nat) (hi : i < 64) :
    s.isTheirPiece (sqBit i) b = (bit b.p1 i != s.p1Turn) := by
  unfold isTheirPiece
  rw [sqBit_and_ne_zero _ i hi]
  cases s.p1Turn <;> cases bit b.p1 i <;> rfl

/-- the code's pull test leaves out what the call site guarantees: that an enemy piece moves -/
theorem countedAsPull_eq (s : GameState) (pp : PlayPhase) (hw : WF s.board) (hp : PendOk s.board pp.pps)
    (i j : Nat) (d : Dir) (c : Cell) (hi : i < 64) (hn : nbr i (dirSpec d) = some j)
    (hc : absBoard s.board i = some c) :
    pullEnd (absBoard s.board) s.p1Turn (absPend pp.pps) i (dirSpec d) =
      ((c.gold != s.p1Turn) && moveCanBeCountedAsPull pp (sqBit i) d s.board) := by
  unfold moveCanBeCountedAsPull pullEnd
  cases hpps : pp.pps with
  | none => simp [absPend]
  | mustCompletePush q v => simp [absPend]
  | possiblePull q x =>
    rw [hpps] at hp
    obtain ⟨hq, hqe⟩ := hp
    have hj := nbr_lt i j _ hi hn
    simp only [absPend, hc, hn, shiftInDirection_sqBit i j d hi hn, toSpec_strength_lt,
      pieceTypeAtBit_abs _ hw i hi c hc]
    by_cases e : j = q
    · subst e
      simp [absBoard_isNone _ hw j, hqe]
    · have e' : sqBit q ≠ sqBit j := fun h => e (sqBit_injective q j hq hj h).symm
      rw [beq_eq_false_iff_ne.mpr e, beq_eq_false_iff_ne.mpr e']
      simp

theorem pendOk_next (s : GameState) (pp : PlayPhase) (b' : Board) (i : Nat) (d : Dir) (hi : i < 64)
    (he : bit b'.all i = false) : PendOk b' (s.nextPushPullState pp i d) := by
  simp only [nextPushPullState]
  split
  · exact ⟨hi, he⟩
  · split
    · exact ⟨hi, he⟩
    · trivial

theorem nextStatus_eq (s : GameState) (pp : PlayPhase) (h : PlayInv s pp) (i : Nat) (d : Dir)
    (ha : Action.move i d ∈ s.validActionsNoRep) :
    absPend (s.nextPushPullState pp i d) =
      nextPending (absBoard s.board) s.p1Turn (absPend pp.pps) i (dirSpec d) := by
  obtain ⟨c, j, o⟩ := offered_step_facts s pp h i d ha
  have ht := pieceTypeAtBit_abs s.board h.wf i o.src_lt c o.src
  have hr : (pieceTypeAtBit (sqBit i) s.board != Piece.rabbit) = (c.piece != Spec.Piece.rabbit) := by
    rw [← ht]; cases pieceTypeAtBit (sqBit i) s.board <;> rfl
  -- the code's three tests are the specification's (`isTheirPiece`: the cell's colour; `moveCanBeCountedAsPull`: `pullEnd`
  -- for an enemy piece; the rabbit test: on the cell's piece); then both sides are one decision tree on four Booleans
  unfold nextPushPullState nextPending
  simp only [o.src, isTheirPiece_eq s s.board i o.src_lt, ← absBoard_gold s.board i c o.src, absPend_isPush, hr,
    countedAsPull_eq s pp h.wf h.pend i j d c o.src_lt o.nbr_eq o.src]
  cases (c.gold != s.p1Turn) <;> cases moveCanBeCountedAsPull pp (sqBit i) d s.board <;>
    cases pp.pps.isMustCompletePush <;> cases (c.piece != Spec.Piece.rabbit) <;> simp [absPend, ht]

end Arimaa
