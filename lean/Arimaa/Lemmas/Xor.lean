import Arimaa.Lemmas.Bits

/-!
The XOR-fold algebra behind C08 and C17.

`xorOver x f` (XOR of `f sq` over the set bits of `x`) is rewritten as a fold over all 64 squares;
from this `xorOver (x ^^^ y) f = xorOver x f ^^^ xorOver y f` for all words.  Hence the from-scratch hash
`zFromPieceBoard` is a header (constant, side, step) XOR the board part `boardPart b`, `pieceBoardValue` is
the XOR of two board parts, and the difference of two from-scratch hashes falls apart feature by feature
(`zFromPieceBoard_xor`).  Nothing here depends on the table values, and no board is assumed well formed.
-/
namespace Arimaa
open Gen

def xsum {α : Type} (l : List α) (g : α → BB) : BB := l.foldl (fun acc a => acc ^^^ g a) 0

-- the core lemmas state these with `0#w`, which `rw` does not match against the literal `(0 : BB)`
theorem bb_zero_xor (a : BB) : 0 ^^^ a = a := by simp
theorem bb_xor_zero (a : BB) : a ^^^ 0 = a := by simp
theorem bb_xor_self (a : BB) : a ^^^ a = 0 := by simp

theorem xor_cancel_left (a b : BB) : a ^^^ (a ^^^ b) = b := by
  rw [← BitVec.xor_assoc, BitVec.xor_self]; simp

theorem xor_xor_cancel_left (a b c : BB) : (a ^^^ b) ^^^ (a ^^^ c) = b ^^^ c := by
  have : (a ^^^ b) ^^^ (a ^^^ c) = a ^^^ (a ^^^ (b ^^^ c)) := by ac_rfl
  rw [this, xor_cancel_left]

theorem xor_toggle (a t x y : BB) : a ^^^ t ^^^ x ^^^ y ^^^ t = a ^^^ x ^^^ y := by
  rw [show a ^^^ t ^^^ x ^^^ y ^^^ t = t ^^^ (t ^^^ (a ^^^ x ^^^ y)) by ac_rfl, xor_cancel_left]

theorem foldl_xor_init {α : Type} (l : List α) (g : α → BB) (a : BB) :
    l.foldl (fun acc x => acc ^^^ g x) a = a ^^^ xsum l g := by
  unfold xsum
  induction l generalizing a with
  | nil => simp
  | cons x xs ih =>
    simp only [List.foldl_cons]
    rw [ih (a ^^^ g x), ih (0 ^^^ g x), bb_zero_xor, BitVec.xor_assoc]

@[simp] theorem xsum_nil {α : Type} (g : α → BB) : xsum [] g = 0 := rfl

theorem xsum_cons {α : Type} (x : α) (xs : List α) (g : α → BB) :
    xsum (x :: xs) g = g x ^^^ xsum xs g := by
  show (x :: xs).foldl _ 0 = _
  rw [List.foldl_cons, foldl_xor_init, bb_zero_xor]

theorem xsum_append {α : Type} (l₁ l₂ : List α) (g : α → BB) :
    xsum (l₁ ++ l₂) g = xsum l₁ g ^^^ xsum l₂ g := by
  induction l₁ with
  | nil => simp
  | cons x xs ih => simp only [List.cons_append, xsum_cons, ih, BitVec.xor_assoc]

theorem xsum_congr {α : Type} (l : List α) (g h : α → BB) (hg : ∀ a ∈ l, g a = h a) :
    xsum l g = xsum l h := by
  induction l with
  | nil => rfl
  | cons x xs ih =>
    rw [xsum_cons, xsum_cons, hg x (by simp), ih (fun a ha => hg a (by simp [ha]))]

theorem xsum_xor {α : Type} (l : List α) (g h : α → BB) :
    xsum l (fun a => g a ^^^ h a) = xsum l g ^^^ xsum l h := by
  induction l with
  | nil => simp
  | cons x xs ih =>
    simp only [xsum_cons, ih]
    ac_rfl

theorem xsum_zero {α : Type} (l : List α) (g : α → BB) (h0 : ∀ a ∈ l, g a = 0) : xsum l g = 0 := by
  induction l with
  | nil => rfl
  | cons x xs ih =>
    rw [xsum_cons, h0 x (by simp), ih (fun a ha => h0 a (by simp [ha]))]; simp

theorem xsum_single {α : Type} (l : List α) (g : α → BB) (q : α) (hnd : l.Nodup) (hq : q ∈ l)
    (h0 : ∀ a ∈ l, a ≠ q → g a = 0) : xsum l g = g q := by
  induction l with
  | nil => cases hq
  | cons x xs ih =>
    rw [xsum_cons]
    rw [List.nodup_cons] at hnd
    rcases List.mem_cons.mp hq with rfl | hq'
    · rw [xsum_zero xs g (fun a ha => h0 a (by simp [ha]) (by rintro rfl; exact hnd.1 ha))]
      simp
    · have hx : x ≠ q := by rintro rfl; exact hnd.1 hq'
      rw [h0 x (by simp) hx, ih hnd.2 hq' (fun a ha => h0 a (by simp [ha]))]
      simp

theorem xsum_pair {α : Type} [DecidableEq α] (l : List α) (g : α → BB) (q₁ q₂ : α)
    (hnd : l.Nodup) (h1 : q₁ ∈ l) (h2 : q₂ ∈ l) (hne : q₁ ≠ q₂)
    (h0 : ∀ a ∈ l, a ≠ q₁ → a ≠ q₂ → g a = 0) : xsum l g = g q₁ ^^^ g q₂ := by
  have hsplit : xsum l g =
      xsum l (fun a => (if a = q₁ then g a else 0) ^^^ (if a = q₁ then 0 else g a)) := by
    apply xsum_congr
    intro a _
    by_cases h : a = q₁ <;> simp [h]
  rw [hsplit, xsum_xor, xsum_single l _ q₁ hnd h1 (fun a _ hne' => by simp [hne']),
    xsum_single l _ q₂ hnd h2 (fun a ha hne' => by
      by_cases h : a = q₁
      · simp [h]
      · simp only [h, if_false]; exact h0 a ha h hne')]
  simp [hne.symm]

theorem xsum_comm {α β : Type} (l₁ : List α) (l₂ : List β) (g : α → β → BB) :
    xsum l₁ (fun a => xsum l₂ (fun b => g a b)) = xsum l₂ (fun b => xsum l₁ (fun a => g a b)) := by
  induction l₁ with
  | nil => simp only [xsum_nil]; rw [xsum_zero]; intros; rfl
  | cons x xs ih =>
    simp only [xsum_cons, ih]
    rw [xsum_xor]

theorem xsum_filter {α : Type} (l : List α) (p : α → Bool) (g : α → BB) :
    xsum (l.filter p) g = xsum l (fun a => if p a then g a else 0) := by
  induction l with
  | nil => rfl
  | cons x xs ih =>
    rw [List.filter_cons, xsum_cons]
    cases hp : p x
    · simp [ih]
    · simp [ih, xsum_cons]

def xorTerm (x : BB) (f : Nat → BB) (i : Nat) : BB := if bit x i then f i else 0

theorem xorOver_eq_xsum (x : BB) (f : Nat → BB) : xorOver x f = xsum (List.range 64) (xorTerm x f) := by
  show xsum (squaresOf x) f = _
  unfold squaresOf
  rw [xsum_filter]
  rfl

theorem xorTerm_xor (x y : BB) (f : Nat → BB) (i : Nat) :
    xorTerm (x ^^^ y) f i = xorTerm x f i ^^^ xorTerm y f i := by
  unfold xorTerm
  rw [bit_xor]
  cases bit x i <;> cases bit y i <;> simp

theorem xorOver_xor (x y : BB) (f : Nat → BB) :
    xorOver (x ^^^ y) f = xorOver x f ^^^ xorOver y f := by
  rw [xorOver_eq_xsum, xorOver_eq_xsum, xorOver_eq_xsum, ← xsum_xor]
  apply xsum_congr
  intro i _
  exact xorTerm_xor x y f i

theorem xorOver_zero (f : Nat → BB) : xorOver 0 f = 0 := by
  unfold xorOver; rw [squaresOf_zero]; rfl

theorem xorOver_sqBit (q : Nat) (hq : q < 64) (f : Nat → BB) : xorOver (sqBit q) f = f q := by
  rw [xorOver_eq_xsum, xsum_single _ _ q List.nodup_range (List.mem_range.mpr hq)]
  · unfold xorTerm; rw [sqBit_bit_raw]; simp [hq]
  · intro i hi hne
    unfold xorTerm; rw [sqBit_bit_raw]; simp [hne]

theorem planes_nodup : planes.Nodup := by decide

theorem mem_planes (op : Bool × Piece) : op ∈ planes := by
  obtain ⟨o, p⟩ := op
  cases o <;> cases p <;> decide

def contentValue (sq : Nat) : Option (Bool × Piece) → BB
  | none => 0
  | some op => pieceValue sq op.2 op.1

def ppsValue : PPS → BB
  | .none => 0
  | .mustCompletePush sq p => pushPieceValue sq p
  | .possiblePull sq p => pullPieceValue sq p

theorem zWithPPS_eq (h : BB) (pps : PPS) : zWithPPS h pps = h ^^^ ppsValue pps := by
  cases pps <;> rfl

def boardPart (b : Board) : BB :=
  planes.foldl (fun acc op =>
    acc ^^^ xorOver (b.bitsForPiece op.2 op.1) (fun sq => pieceValue sq op.2 op.1)) 0

theorem boardPart_eq_xsum (b : Board) :
    boardPart b =
      xsum planes (fun op => xorOver (b.bitsForPiece op.2 op.1) (fun sq => pieceValue sq op.2 op.1)) :=
  rfl

theorem pieceBoardValue_eq (prev new : Board) :
    pieceBoardValue prev new = boardPart prev ^^^ boardPart new := by
  rw [boardPart_eq_xsum, boardPart_eq_xsum, ← xsum_xor]
  show xsum planes _ = _
  apply xsum_congr
  intro op _
  exact xorOver_xor _ _ _

theorem zFromPieceBoard_eq (b : Board) (side : Bool) (step : Nat) :
    zFromPieceBoard b side step =
      Z_INITIAL ^^^ (if side then 0 else Z_PLAYER_TO_MOVE) ^^^ stepValueAt step ^^^ boardPart b := by
  unfold zFromPieceBoard
  simp only []  -- zeta-reduces the `let`s of `zFromPieceBoard`
  rw [foldl_xor_init]
  cases side <;> simp [boardPart_eq_xsum]

theorem xor_nf_diff (i a b c a' b' c' : BB) :
    (i ^^^ a ^^^ b ^^^ c) ^^^ (i ^^^ a' ^^^ b' ^^^ c') = (a ^^^ a') ^^^ (b ^^^ b') ^^^ (c ^^^ c') := by
  have : (i ^^^ a ^^^ b ^^^ c) ^^^ (i ^^^ a' ^^^ b' ^^^ c') =
      i ^^^ (i ^^^ ((a ^^^ a') ^^^ (b ^^^ b') ^^^ (c ^^^ c'))) := by ac_rfl
  rw [this, xor_cancel_left]

theorem sideConst_xor (s s' : Bool) :
    (if s then 0 else Z_PLAYER_TO_MOVE) ^^^ (if s' then 0 else Z_PLAYER_TO_MOVE) =
      (if s != s' then Z_PLAYER_TO_MOVE else 0 : BB) := by
  cases s <;> cases s' <;> simp

/-- every incremental update of `zobrist.rs` is an instance -/
theorem zFromPieceBoard_xor (b b' : Board) (s s' : Bool) (i i' : Nat) :
    zFromPieceBoard b s i ^^^ zFromPieceBoard b' s' i' =
      ((if s then 0 else Z_PLAYER_TO_MOVE) ^^^ (if s' then 0 else Z_PLAYER_TO_MOVE)) ^^^
        (stepValueAt i ^^^ stepValueAt i') ^^^ (boardPart b ^^^ boardPart b') := by
  rw [zFromPieceBoard_eq, zFromPieceBoard_eq]
  exact xor_nf_diff ..

theorem zFromPieceBoard_xor_board (b b' : Board) (side : Bool) (step : Nat) :
    zFromPieceBoard b side step ^^^ zFromPieceBoard b' side step = boardPart b ^^^ boardPart b' := by
  rw [zFromPieceBoard_xor, bb_xor_self, bb_xor_self, bb_zero_xor, bb_zero_xor]

theorem zFromPieceBoard_xor_step (b : Board) (side : Bool) (i j : Nat) :
    zFromPieceBoard b side i ^^^ zFromPieceBoard b side j = stepValueAt i ^^^ stepValueAt j := by
  rw [zFromPieceBoard_xor, bb_xor_self, bb_xor_self, bb_zero_xor, bb_xor_zero]

theorem zFromPieceBoard_xor_side (b : Board) (side : Bool) (step : Nat) :
    zFromPieceBoard b side step ^^^ zFromPieceBoard b (!side) step = Z_PLAYER_TO_MOVE := by
  rw [zFromPieceBoard_xor, bb_xor_self, bb_xor_self, bb_xor_zero, bb_xor_zero, sideConst_xor,
    show (side != !side) = true by cases side <;> rfl, if_pos rfl]

theorem zFromPieceBoard_switch_side (b : Board) (side : Bool) (step : Nat) :
    zFromPieceBoard b (!side) step ^^^ Z_PLAYER_TO_MOVE = zFromPieceBoard b side step := by
  rw [← zFromPieceBoard_xor_side b side step, BitVec.xor_comm (zFromPieceBoard b side step), xor_cancel_left]

end Arimaa
