import Arimaa.Lemmas.Preview
import Arimaa.Lemmas.Setup
import Arimaa.Lemmas.Sim

/-!
C13 — The capture preview predicts exactly what applying the step removes.

`NoHanging b`: no piece stands on a trap square without a friendly neighbour.  It holds after every
finished setup and after every step whatsoever (the capture rule establishes it), and a pass keeps
it; a hand-written diagram with an unsupported trap piece is the only way to start without it
(DESIGN.md section 5), and then the first step removes every such piece.
-/
namespace Arimaa
open Spec

/-- **At most one capture per step** (specification level): from a position without unsupported
trap pieces, after one piece moved one square onto an empty square, at most one square holds an
unsupported trap piece (the mover on its destination, or a friend of the mover on a trap next to the
source: both at once would put the source next to two traps). -/
theorem C13_at_most_one (b : Spec.Board) (hb : NoHanging b) (i j : Nat) (d : Spec.Dir) (hi : i < 64)
    (hn : nbr i d = some j) (hej : b j = none) (k1 k2 : Nat) (hk1 : k1 < 64) (hk2 : k2 < 64)
    (h1 : hanging (move b i j) k1 = true) (h2 : hanging (move b i j) k2 = true) : k1 = k2 :=
  at_most_one_hanging b hb i j d hi hn hej k1 k2 hk1 hk2 h1 h2

/-- the board after an offered step, in terms of what is removed -/
theorem C13_step_removes (s : GameState) (pp : PlayPhase) (h : PlayInv s pp) (i : Nat) (d : Dir)
    (ha : Action.move i d ∈ s.validActionsNoRep) :
    ∃ j, nbr i (dirSpec d) = some j ∧
      ∀ k, absBoard (s.takeAction (.move i d)).board k =
        if hanging (move (absBoard s.board) i j) k then none else move (absBoard s.board) i j k := by
  obtain ⟨_, j, o, hcap, _⟩ := step_board s pp h i d ha
  exact ⟨j, o.nbr_eq, fun k => by rw [hcap, capture_apply]⟩

/-- **The preview is exact.**  For a state satisfying the play invariant whose board has no
unsupported trap piece, and every offered step `(i, d)` with destination `j`:
* the preview returns nothing exactly when no square of the moved board is unsupported, i.e. when
  applying the step removes no piece (`C13_step_removes`);
* if it returns `(k, p, g)` then `k` is on the board, the moved board holds exactly the piece `p`
  of colour `g` on `k`, that piece is removed by applying the step, and no other piece is. -/
theorem C13_preview_exact (s : GameState) (pp : PlayPhase) (h : PlayInv s pp)
    (hno : NoHanging (absBoard s.board)) (i : Nat) (d : Dir)
    (ha : Action.move i d ∈ s.validActionsNoRep) :
    ∃ j, nbr i (dirSpec d) = some j ∧
      (s.trappedAnimalForAction (.move i d) = none ↔
        ∀ k, k < 64 → hanging (move (absBoard s.board) i j) k = false) ∧
      (∀ k p g, s.trappedAnimalForAction (.move i d) = some (k, p, g) →
        k < 64 ∧ move (absBoard s.board) i j k = some ⟨g, toSpec p⟩ ∧
          hanging (move (absBoard s.board) i j) k = true ∧
          ∀ k', k' < 64 → hanging (move (absBoard s.board) i j) k' = true → k' = k) := by
  obtain ⟨_, j, o, _⟩ := step_board s pp h i d ha
  exact ⟨j, o.nbr_eq, preview_exact s h.wf hno i d j o.src_lt o.nbr_eq o.dst_empty⟩

/-- The preview of a pass or a placement is nothing. -/
theorem C13_preview_non_step (s : GameState) : s.trappedAnimalForAction .pass = none ∧
    ∀ p, s.trappedAnimalForAction (.place p) = none := ⟨rfl, fun _ => rfl⟩

/-- **No unsupported trap piece after any step**, whatever the board was before. -/
theorem C13_no_hanging_after_step (s : GameState) (pp : PlayPhase) (h : PlayInv s pp) (i : Nat) (d : Dir)
    (ha : Action.move i d ∈ s.validActionsNoRep) : NoHanging (absBoard (s.takeAction (.move i d)).board) := by
  obtain ⟨_, j, _, hcap, _⟩ := step_board s pp h i d ha
  rw [hcap]
  exact noHanging_capture _

/-- `NoHanging` is kept by every offered action (a pass does not change the board) -/
theorem C13_no_hanging_preserved (s : GameState) (pp : PlayPhase) (h : PlayInv s pp)
    (hno : NoHanging (absBoard s.board)) (a : Action) (ha : a ∈ s.validActionsNoRep) :
    NoHanging (absBoard (s.takeAction a).board) := by
  obtain ⟨a', _, _, _, _, hs⟩ := sim_step s pp h a ha
  rw [show absBoard (s.takeAction a).board = _ from congrArg State.board hs]
  exact State.noHanging_next _ hno a'

/-- at every point of the setup, finished or not, no piece stands on a trap square at all -/
theorem C13_no_hanging_after_setup {ps : List Piece} {s : GameState} (hr : SetupRun ps s) :
    NoHanging (absBoard s.board) := by
  intro k c _ hc ht
  have hk4 : 16 ≤ k ∧ k < 48 := by
    simp only [isTrap, Bool.or_eq_true, beq_iff_eq] at ht; omega
  rw [setupRun_middle_empty hr hk4.1 hk4.2] at hc
  cases hc

/-- Gold cat on c3 supported only by the Gold rabbit on c2; the rabbit steps away -/
def exC13 : GameState :=
  { p1Turn := true, moveNo := 5, hash := 0
    board := Board.new (sqBit 42 ||| sqBit 50) 0 0 0 0 (sqBit 42) (sqBit 50 ||| sqBit 9)
    phase := .play (PlayPhase.initial 0 [0]) }

example : exC13.trappedAnimalForAction (.move 50 .right) = some (42, .cat, true) := by decide +kernel
example : exC13.trappedAnimalForAction (.move 42 .left) = none := by decide +kernel

end Arimaa
