import Arimaa.Lemmas.Xor
import Arimaa.Lemmas.Turn

/-!
The hash invariant behind C08: in the play phase the incrementally maintained `hash` equals
`Zobrist::from_piece_board(board, side, step)`.  Every update of `zobrist.rs` XORs the difference of two
from-scratch hashes onto the hash it is given (`z…_delta`), so preservation by `move_piece` and `pass`
holds for every square, direction and board.
-/
namespace Arimaa
open Gen

def HashOk (s : GameState) : Prop :=
  match s.phase with
  | .play pp => s.hash = zFromPieceBoard s.board s.p1Turn pp.step
  | .place => True

theorem HashOk_play (s : GameState) (pp : PlayPhase) (hp : s.phase = .play pp) :
    HashOk s ↔ s.hash = zFromPieceBoard s.board s.p1Turn pp.step := by
  unfold HashOk; rw [hp]

theorem zMovePiece_delta (h : BB) (b nb : Board) (s s' : Bool) (i i' : Nat) :
    zMovePiece h s b i nb i' s' = h ^^^ (zFromPieceBoard b s i ^^^ zFromPieceBoard nb s' i') := by
  rw [zFromPieceBoard_xor, sideConst_xor, zMovePiece, stepValue, pieceBoardValue_eq,
    BitVec.xor_assoc, BitVec.xor_assoc, BitVec.xor_comm (boardPart b ^^^ boardPart nb),
    ← BitVec.xor_assoc _ (stepValueAt i ^^^ stepValueAt i')]

theorem zExcludeStep_delta (h : BB) (b : Board) (s : Bool) (i : Nat) :
    zExcludeStep h i = h ^^^ (zFromPieceBoard b s i ^^^ zFromPieceBoard b s 0) := by
  rw [zFromPieceBoard_xor_step, zExcludeStep,
    BitVec.xor_assoc, BitVec.xor_comm (stepValueAt 0)]

theorem zPass_delta (h : BB) (b : Board) (s : Bool) (i : Nat) :
    zPass h i = h ^^^ (zFromPieceBoard b s i ^^^ zFromPieceBoard b (!s) 0) := by
  rw [zFromPieceBoard_xor, bb_xor_self, bb_xor_zero, sideConst_xor,
    show (s != !s) = true by cases s <;> rfl, if_pos rfl, zPass,
    BitVec.xor_assoc, BitVec.xor_assoc, BitVec.xor_comm (stepValueAt 0)]

theorem zMovePiece_scratch (b nb : Board) (side newSide : Bool) (step newStep : Nat) :
    zMovePiece (zFromPieceBoard b side step) side b step nb newStep newSide =
      zFromPieceBoard nb newSide newStep := by
  rw [zMovePiece_delta, xor_cancel_left]

theorem zPass_scratch (b : Board) (side : Bool) (step : Nat) :
    zPass (zFromPieceBoard b side step) step = zFromPieceBoard b (!side) 0 := by
  rw [zPass_delta _ b side, xor_cancel_left]

theorem zExcludeStep_scratch (b : Board) (side : Bool) (step : Nat) :
    zExcludeStep (zFromPieceBoard b side step) step = zFromPieceBoard b side 0 := by
  rw [zExcludeStep_delta _ b side, xor_cancel_left]

/-! The two hashes the repetition test of `engine.rs` computes for an action, with and without the
switch of sides, differ by the side constant. -/

theorem zMovePiece_noSwitch (h : BB) (p : Bool) (b : Board) (st : Nat) (nb : Board) :
    zMovePiece h p b st nb 0 p = zMovePiece h p b st nb 0 (!p) ^^^ Z_PLAYER_TO_MOVE := by
  rw [zMovePiece, zMovePiece, show (p != p) = false by cases p <;> rfl,
    show (p != !p) = true by cases p <;> rfl, if_pos rfl, if_neg Bool.false_ne_true, bb_xor_zero, xor_toggle]

theorem zExcludeStep_eq_pass (h : BB) (st : Nat) :
    zExcludeStep h st = zPass h st ^^^ Z_PLAYER_TO_MOVE :=
  (xor_toggle h Z_PLAYER_TO_MOVE (stepValueAt 0) (stepValueAt st)).symm

/-- the state a turn end builds (`GameState.turnEnd`) when the state before has the from-scratch hash:
the new hash, `initHash` and head of the history are the from-scratch hash of the new position -/
def turnEndState (s : GameState) (pp : PlayPhase) (nb : Board) (cap : Bool) : GameState :=
  s.turnEnd pp nb cap (zFromPieceBoard nb (!s.p1Turn) 0)

theorem HashOk_turnEndState (s : GameState) (pp : PlayPhase) (nb : Board) (cap : Bool) :
    HashOk (turnEndState s pp nb cap) :=
  (HashOk_play _ (PlayPhase.initial _ _) rfl).mpr (Eq.refl (zFromPieceBoard nb (!s.p1Turn) 0))

theorem pass_turnEnd (s : GameState) (pp : PlayPhase) (hph : s.phase = .play pp)
    (hh : s.hash = zFromPieceBoard s.board s.p1Turn pp.step) :
    s.pass = turnEndState s pp s.board pp.trapped := by
  rw [GameState.pass_play s pp hph, hh, zPass_scratch]; rfl

theorem movePiece_turnEnd (s : GameState) (pp : PlayPhase) (hph : s.phase = .play pp)
    (hh : s.hash = zFromPieceBoard s.board s.p1Turn pp.step) (sq : Nat) (d : Dir) (h3 : pp.step ≥ 3) :
    s.movePiece sq d = turnEndState s pp (s.board.takeMove sq d).1 (s.board.takeMove sq d).2 := by
  rw [GameState.movePiece_ge3 s pp hph sq d h3, hh, zMovePiece_scratch]; rfl

theorem HashOk_scratch {s : GameState} (h : HashOk s) (hp : s.isPlay = true) :
    ∃ pp, s.phase = .play pp ∧ s.hash = zFromPieceBoard s.board s.p1Turn pp.step := by
  obtain ⟨pp, hpp⟩ := (GameState.isPlay_iff s).mp hp
  exact ⟨pp, hpp, (HashOk_play s pp hpp).mp h⟩

theorem HashOk_takeAction (s : GameState) (h : HashOk s) (hp : s.isPlay = true) (a : Action)
    (ha : a.isPlace = false) : HashOk (s.takeAction a) ∧ (s.takeAction a).isPlay = true := by
  obtain ⟨pp, hpp, hs⟩ := HashOk_scratch h hp
  cases a with
  | place p => cases ha
  | pass =>
    rw [show s.takeAction .pass = s.pass from rfl, pass_turnEnd s pp hpp hs]
    exact ⟨HashOk_turnEndState _ _ _ _, rfl⟩
  | move sq d =>
    show HashOk (s.movePiece sq d) ∧ (s.movePiece sq d).isPlay = true
    by_cases hl : pp.step < 3
    · rw [GameState.movePiece_lt3 s pp hpp sq d hl]
      refine ⟨(HashOk_play _ _ rfl).mpr ?_, rfl⟩
      show _ = zFromPieceBoard _ _ (pp.prev ++ [s.board]).length
      rw [hs, List.length_append]; exact zMovePiece_scratch _ _ _ _ _ _
    · rw [movePiece_turnEnd s pp hpp hs sq d (Nat.le_of_not_lt hl)]
      exact ⟨HashOk_turnEndState _ _ _ _, rfl⟩

theorem takeAction_hash_scratch (s : GameState) (pp : PlayPhase) (hph : s.phase = .play pp)
    (hh : s.hash = zFromPieceBoard s.board s.p1Turn pp.step) (a : Action) (ha : a.isPlace = false)
    (pp' : PlayPhase) (hph' : (s.takeAction a).phase = .play pp') :
    (s.takeAction a).hash = zFromPieceBoard (s.takeAction a).board (s.takeAction a).p1Turn pp'.step :=
  (HashOk_play _ pp' hph').mp
    (HashOk_takeAction s ((HashOk_play s pp hph).mpr hh) ((GameState.isPlay_iff s).mpr ⟨pp, hph⟩) a ha).1

theorem HashOk_run (s : GameState) (h : HashOk s) (hp : s.isPlay = true) (as : List Action)
    (has : ∀ a ∈ as, a.isPlace = false) :
    HashOk (as.foldl GameState.takeAction s) ∧ (as.foldl GameState.takeAction s).isPlay = true := by
  induction as generalizing s with
  | nil => exact ⟨h, hp⟩
  | cons a as ih =>
    obtain ⟨h', hp'⟩ := HashOk_takeAction s h hp a (has a (by simp))
    exact ih _ h' hp' (fun b hb => has b (by simp [hb]))

end Arimaa
