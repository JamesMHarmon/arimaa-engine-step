import Arimaa.Lemmas.HashDelta
import Arimaa.Lemmas.Place

/-!
The hash invariant in the setup phase (C08, placements): the incrementally maintained hash is
`INITIAL ^^^ side ^^^ boardPart board` (no step constant yet); the last placement adds the step
constant of step 0 and yields a play-phase state with the from-scratch hash.
-/
namespace Arimaa
open Gen

def SetupHashOk (s : GameState) : Prop :=
  s.hash = Z_INITIAL ^^^ (if s.p1Turn then 0 else Z_PLAYER_TO_MOVE) ^^^ boardPart s.board

/-- what `place` needs from the board: the placement bit is a single on-board bit, its square is empty, every type
board and the gold board lie inside `all`, and on the last square of a side's home rows that side is to move -/
structure PlaceReady (s : GameState) : Prop where
  single : sqOfBit s.board.placementBit < 64 ∧
    s.board.placementBit = sqBit (sqOfBit s.board.placementBit)
  free : s.board.all &&& s.board.placementBit = 0
  typesInAll : ∀ g : Piece, s.board.typeBits g &&& s.board.all = s.board.typeBits g
  p1InAll : s.board.p1 &&& s.board.all = s.board.p1
  turnP1 : s.board.placementBit = LAST_P1_PLACEMENT_MASK → s.p1Turn = true
  turnP2 : s.board.placementBit = LAST_P2_PLACEMENT_MASK → s.p1Turn = false

-- `∀ g : Piece` has no `Decidable` instance, hence the fields once more with `∀ g ∈ Piece_ALL`
instance (s : GameState) : Decidable (PlaceReady s) :=
  decidable_of_iff
    ((sqOfBit s.board.placementBit < 64 ∧
        s.board.placementBit = sqBit (sqOfBit s.board.placementBit)) ∧
      s.board.all &&& s.board.placementBit = 0 ∧
      (∀ g ∈ Piece_ALL, s.board.typeBits g &&& s.board.all = s.board.typeBits g) ∧
      s.board.p1 &&& s.board.all = s.board.p1 ∧
      (s.board.placementBit = LAST_P1_PLACEMENT_MASK → s.p1Turn = true) ∧
      (s.board.placementBit = LAST_P2_PLACEMENT_MASK → s.p1Turn = false))
    ⟨fun ⟨a, b, c, d, e, f⟩ => ⟨a, b, fun g => c g (mem_Piece_ALL g), d, e, f⟩,
     fun h => ⟨h.single, h.free, fun g _ => h.typesInAll g, h.p1InAll, h.turnP1, h.turnP2⟩⟩

theorem new_typeBits_in_all (p1 e m h d c r : BB) (g : Piece) :
    (Board.new p1 e m h d c r).typeBits g &&& (Board.new p1 e m h d c r).all =
      (Board.new p1 e m h d c r).typeBits g := by
  apply bb_ext
  intro i _
  rw [bit_and, Bool.and_eq_left_iff_imp]
  intro hi
  cases g <;> simp only [Board.new, Board.typeBits, bit_or] at hi ⊢ <;> simp [hi]

theorem bitsForPiece_planeBit (b : Board) (p : Piece) (o : Bool) (i : Nat) (hi : i < 64) :
    bit (b.bitsForPiece p o) i =
      (bit (b.typeBits p) i && (if o then bit b.p1 i else (!bit b.p1 i && bit b.all i))) := by
  unfold Board.bitsForPiece Board.playerPieceMask
  rw [bitsByPieceType_eq, bit_and]
  cases o
  · simp [bit_and, bit_not, hi]
  · simp

theorem bitsForPiece_planeBit_of_subset (b : Board) (g : Piece) (o : Bool) (i : Nat) (hi : i < 64)
    (h : b.typeBits g &&& b.all = b.typeBits g) :
    bit (b.bitsForPiece g o) i = (bit (b.typeBits g) i && (bit b.p1 i == o)) := by
  have h2 := congrArg (bit · i) h
  simp only [bit_and] at h2
  rw [bitsForPiece_planeBit _ _ _ _ hi]
  revert h2
  cases o <;> cases bit (b.typeBits g) i <;> cases bit b.p1 i <;> cases bit b.all i <;> decide

/-- `place_plane` (Lemmas/PlaceRep.lean) once more, on the twelve (owner, piece) planes of the hash and in XOR
form: `PlaceReady` carries inclusions but no disjointness, so `WF` and `Rep` are not to be had here -/
theorem place_bitsForPiece (s : GameState) (p : Piece)
    (hfree : s.board.all &&& s.board.placementBit = 0)
    (htypes : ∀ g : Piece, s.board.typeBits g &&& s.board.all = s.board.typeBits g)
    (hp1 : s.board.p1 &&& s.board.all = s.board.p1) (o : Bool) (g : Piece) :
    (s.place p).board.bitsForPiece g o =
      s.board.bitsForPiece g o ^^^ (if (o, g) = (s.p1Turn, p) then s.board.placementBit else 0) := by
  have hin : (s.place p).board.typeBits g &&& (s.place p).board.all = (s.place p).board.typeBits g :=
    new_typeBits_in_all _ _ _ _ _ _ _ g
  apply bb_ext
  intro i hi
  rw [bit_xor, bitsForPiece_planeBit_of_subset _ _ _ _ hi hin,
    bitsForPiece_planeBit_of_subset _ _ _ _ hi (htypes g), place_typeBits, place_p1]
  clear hin
  generalize s.board = b at hfree htypes hp1 ⊢
  generalize s.p1Turn = t
  cases hP : bit b.placementBit i
  · -- off the placement bit nothing changes
    have e1 : bit (if g = p then b.typeBits g ||| b.placementBit else b.typeBits g) i =
        bit (b.typeBits g) i := by
      split <;> simp [bit_or, hP]
    have e2 : bit (b.p1 ||| if t = true then b.placementBit else 0) i = bit b.p1 i := by
      cases t <;> simp [bit_or, hP]
    have e3 : bit (if (o, g) = (t, p) then b.placementBit else 0) i = false := by
      split <;> simp [hP]
    rw [e1, e2, e3, Bool.xor_false]
  · -- on it the old board is empty
    have hA : bit b.all i = false := by
      have := congrArg (bit · i) hfree
      simpa [bit_and, hP] using this
    have hT : bit (b.typeBits g) i = false := by rw [← htypes g, bit_and, hA, Bool.and_false]
    have hG : bit b.p1 i = false := by rw [← hp1, bit_and, hA, Bool.and_false]
    by_cases hg : g = p
    · subst hg
      cases t <;> cases o <;> simp [bit_or, hP, hT, hG]
    · cases t <;> cases o <;> simp [hg, bit_or, hP, hT, hG]

theorem boardPart_place (s : GameState) (hr : PlaceReady s) (p : Piece) :
    boardPart (s.place p).board =
      boardPart s.board ^^^ pieceValue (sqOfBit s.board.placementBit) p s.p1Turn := by
  apply boardPart_plane_delta s.board _ s.p1Turn p _ hr.single.1
  · intro op hne
    rw [place_bitsForPiece s p hr.free hr.typesInAll hr.p1InAll, if_neg hne]
    simp
  · rw [place_bitsForPiece s p hr.free hr.typesInAll hr.p1InAll, if_pos rfl]
    exact congrArg _ hr.single.2

theorem lastMasks_ne : LAST_P1_PLACEMENT_MASK ≠ LAST_P2_PLACEMENT_MASK := by decide

theorem place_delta (s : GameState) (hr : PlaceReady s) (p : Piece) :
    (s.place p).hash = s.hash ^^^
      ((Z_INITIAL ^^^ (if s.p1Turn then 0 else Z_PLAYER_TO_MOVE) ^^^ boardPart s.board) ^^^
        (Z_INITIAL ^^^ (if (s.place p).p1Turn then 0 else Z_PLAYER_TO_MOVE) ^^^
          (if s.board.placementBit == LAST_P2_PLACEMENT_MASK then stepValueAt 0 else 0 : BB) ^^^
          boardPart (s.place p).board)) := by
  -- the side constant follows the side to move: `place` flips both exactly at the two last squares
  have hside : (if s.p1Turn then 0 else Z_PLAYER_TO_MOVE) ^^^
      (if (s.place p).p1Turn then 0 else Z_PLAYER_TO_MOVE) =
      (if (s.board.placementBit == LAST_P1_PLACEMENT_MASK ||
        s.board.placementBit == LAST_P2_PLACEMENT_MASK) then Z_PLAYER_TO_MOVE else 0 : BB) := by
    rw [place_p1Turn]
    by_cases e1 : s.board.placementBit = LAST_P1_PLACEMENT_MASK
    · simp [e1, hr.turnP1 e1]
    · by_cases e2 : s.board.placementBit = LAST_P2_PLACEMENT_MASK
      · simp [e2, hr.turnP2 e2, lastMasks_ne.symm]
      · simp [e1, e2]
  rw [← bb_xor_zero (Z_INITIAL ^^^ if s.p1Turn then (0 : BB) else Z_PLAYER_TO_MOVE),
    xor_nf_diff, hside, boardPart_place s hr p, xor_cancel_left, bb_zero_xor,
    place_hash, zPlacePiece, BitVec.xor_assoc, BitVec.xor_assoc, BitVec.xor_assoc,
    BitVec.xor_comm (pieceValue _ _ _)]

theorem setupHashOk_place (s : GameState) (hs : SetupHashOk s) (hr : PlaceReady s) (p : Piece) :
    (s.board.placementBit ≠ LAST_P2_PLACEMENT_MASK →
      (s.place p).phase = .place ∧ SetupHashOk (s.place p)) ∧
    (s.board.placementBit = LAST_P2_PLACEMENT_MASK →
      (s.place p).p1Turn = true ∧
      (s.place p).hash = zFromPieceBoard (s.place p).board true 0 ∧
      (s.place p).phase = .play (PlayPhase.initial (s.place p).hash [(s.place p).hash])) := by
  have key : (s.place p).hash =
      Z_INITIAL ^^^ (if (s.place p).p1Turn then 0 else Z_PLAYER_TO_MOVE) ^^^
        (if s.board.placementBit == LAST_P2_PLACEMENT_MASK then stepValueAt 0 else 0 : BB) ^^^
        boardPart (s.place p).board := by
    rw [place_delta s hr p, ← hs, xor_cancel_left]
  constructor
  · intro h2
    rw [place_phase s p, SetupHashOk, key, beq_false_of_ne h2]
    exact ⟨rfl, by rw [if_neg Bool.false_ne_true, bb_xor_zero]⟩
  · intro h2
    have ht : (s.place p).p1Turn = true := by
      rw [place_p1Turn, h2, beq_false_of_ne lastMasks_ne.symm, beq_self_eq_true]; rfl
    rw [place_phase s p, key, zFromPieceBoard_eq, ht, h2, beq_self_eq_true]
    exact ⟨rfl, rfl, rfl⟩

theorem boardPart_empty : boardPart Board.empty = 0 :=
  xsum_zero _ _ fun op _ => by
    rw [show Board.empty.bitsForPiece op.2 op.1 = 0 by cases op.2 <;> exact BitVec.zero_and, xorOver_zero]

theorem setupHashOk_initial : SetupHashOk GameState.initial := by
  unfold SetupHashOk
  show Z_INITIAL = Z_INITIAL ^^^ 0 ^^^ boardPart Board.empty
  rw [boardPart_empty]; simp

theorem foldl_place_hash (ps : List Piece) : ∀ (s0 : GameState), SetupHashOk s0 → ps ≠ [] →
    (∀ k, k < ps.length → PlaceReady ((ps.take k).foldl GameState.place s0)) →
    (∀ k, k < ps.length →
      (((ps.take k).foldl GameState.place s0).board.placementBit = LAST_P2_PLACEMENT_MASK ↔
        k + 1 = ps.length)) →
    (ps.foldl GameState.place s0).p1Turn = true ∧
    (ps.foldl GameState.place s0).hash = zFromPieceBoard (ps.foldl GameState.place s0).board true 0 ∧
    (ps.foldl GameState.place s0).phase =
      .play (PlayPhase.initial (ps.foldl GameState.place s0).hash [(ps.foldl GameState.place s0).hash]) := by
  induction ps with
  | nil => intro _ _ h; exact absurd rfl h
  | cons p ps ih =>
    intro s0 hs _ hready hlast
    have hr0 : PlaceReady s0 := hready 0 (by simp)
    have hl0 := hlast 0 (by simp)
    simp only [List.take_zero, List.foldl_nil, List.length_cons] at hl0
    obtain ⟨hA, hB⟩ := setupHashOk_place s0 hs hr0 p
    cases ps with
    | nil => exact hB (hl0.mpr rfl)
    | cons p' ps' =>
      have hne : s0.board.placementBit ≠ LAST_P2_PLACEMENT_MASK := by
        intro h; have := hl0.mp h; simp at this
      rw [List.foldl_cons]
      apply ih (s0.place p) (hA hne).2 (by simp)
      · intro k hk
        have := hready (k + 1) (by simpa using hk)
        simpa using this
      · intro k hk
        have := hlast (k + 1) (by simpa using hk)
        simpa using this

end Arimaa
