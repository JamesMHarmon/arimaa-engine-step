-- GENERATED by /verif/tools/gen.py -- do not edit.  Bridge from the current text of `PlayPhase::new` to the baseline text.
import Arimaa.Gen.Rs
import Arimaa.Gen.RsBase
import Arimaa.Gen.BridgeLadder

namespace Arimaa.Gen.Bridge
open Arimaa Arimaa.Gen Arimaa.Rt

set_option maxHeartbeats 1000000 in
theorem bridge_PlayPhase_new : @Rs.PlayPhase_new = @RsBase.PlayPhase_new := by
  funext a0 a1 a2 a3 a4
  rs_ladder [Rs.PlayPhase_new, RsBase.PlayPhase_new] [] (cases a4) [Rs.PlayPhase_new, RsBase.PlayPhase_new]

end Arimaa.Gen.Bridge
