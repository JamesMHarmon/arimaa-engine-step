import Arimaa.Lemmas.RsAgreeGen
import Arimaa.Lemmas.RsAgreeRep
import Arimaa.Gen.Bridge.GameState_valid_actions

namespace Arimaa.RsAgree
open Arimaa.Gen.RsBase Arimaa.Rt

theorem valid_actions__eq (s : GameState) (cr : Bool) :
    GameState_valid_actions_ s cr = Res.guard (s.validActions_Panics cr) (s.validActions_ cr) :=
  valid_actions__of s cr fun _ pp hp => remove_passing_like_actions_eq s pp hp

theorem valid_actions_eq (s : GameState) :
    GameState_valid_actions s = Res.guard s.validActionsPanics s.validActions :=
  valid_actions__eq s true

theorem valid_actions_no_rep_eq (s : GameState) :
    GameState_valid_actions_no_rep s = Res.guard s.validActionsNoRepPanics s.validActionsNoRep :=
  valid_actions_no_rep_direct s

end Arimaa.RsAgree

namespace Arimaa.Code
open Arimaa.Gen.Rs Arimaa.Rt Arimaa.Gen.Bridge

theorem valid_actions_ (s : GameState) (cr : Bool) :
    GameState_valid_actions_ s cr = Res.guard (s.validActions_Panics cr) (s.validActions_ cr) :=
  bridge_GameState_valid_actions_ ▸ RsAgree.valid_actions__eq s cr

theorem valid_actions (s : GameState) :
    GameState_valid_actions s = Res.guard s.validActionsPanics s.validActions :=
  bridge_GameState_valid_actions ▸ RsAgree.valid_actions_eq s

theorem offered {s : GameState} {l : List Action} (h : GameState_valid_actions s = .ok l) : l = s.validActions :=
  RsAgree.eq_of_guard_eq_ok (valid_actions s) h

end Arimaa.Code
