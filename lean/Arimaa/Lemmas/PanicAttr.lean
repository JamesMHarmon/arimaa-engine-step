import Lean.Meta.Tactic.Simp.RegisterCommand

/-- the panic guards of `Impl/Panics.lean` in site form: the composed guards unfold, and every guard of a single site
is rewritten to the condition under which that site fires (`decide (64 ≤ sq)`, `decide (4 ≤ step)`, …) -/
register_simp_attr panic_eq
