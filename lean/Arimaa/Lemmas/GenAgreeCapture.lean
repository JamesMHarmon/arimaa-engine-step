import Arimaa.Lemmas.GenAgreeFrozen

/-! Agreement (see `GenAgree`) of the capture helpers. -/
namespace Arimaa
open Gen GameState

set_option linter.unusedSimpArgs false

theorem agree_both_player_supported_pieces (b : Board) :
    Gen.Fn.both_player_supported_pieces b = bothPlayerSupportedPieces b := by
  first
    | rfl
    | (simp only [Gen.Fn.both_player_supported_pieces, bothPlayerSupportedPieces, agree_supported_pieces] <;> first | rfl | ac_rfl)
    | bitwise_agree

theorem agree_both_player_unsupported_piece_bits (b : Board) :
    Gen.Fn.both_player_unsupported_piece_bits b = bothPlayerUnsupportedPieceBits b := by
  first
    | rfl
    | (simp only [Gen.Fn.both_player_unsupported_piece_bits, bothPlayerUnsupportedPieceBits, agree_both_player_supported_pieces] <;> first | rfl | ac_rfl)
    | bitwise_agree

theorem agree_animal_is_on_trap (b : Board) :
    Gen.Fn.animal_is_on_trap b = animalIsOnTrap b := by
  first
    | rfl
    | (simp only [Gen.Fn.animal_is_on_trap, animalIsOnTrap] <;> first | rfl | ac_rfl)
    | bitwise_agree

theorem agree_trapped_piece_bits (b : Board) :
    Gen.Fn.trapped_piece_bits b = b.trappedPieceBits := by
  first
    | rfl
    | (simp only [Gen.Fn.trapped_piece_bits, Board.trappedPieceBits, agree_animal_is_on_trap, agree_both_player_unsupported_piece_bits] <;> first | rfl | ac_rfl)
    | bitwise_agree

end Arimaa
