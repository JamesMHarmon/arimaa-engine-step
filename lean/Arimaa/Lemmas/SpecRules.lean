import Arimaa.Spec.Rules

/-!
Lemmas about `Spec/Rules.lean` alone; nothing here mentions the implementation model.  `enabled_cases` destructs an
enabled step into its kind and the obligation it leaves.
-/
namespace Arimaa.Spec

def Dir.opp : Spec.Dir → Spec.Dir
  | .n => .s | .s => .n | .e => .w | .w => .e

theorem cell_beq_def (c c' : Cell) : (c == c') = (c.piece == c'.piece && (c.gold == c'.gold)) := by
  cases c; cases c'; rw [Bool.eq_iff_iff]; simp [and_comm]

theorem nbr_eq_some (i j : Nat) (d : Spec.Dir) : nbr i d = some j ↔
    match d with
    | .n => i = j + 8
    | .s => i + 8 < 64 ∧ i + 8 = j
    | .e => i % 8 ≠ 7 ∧ i + 1 = j
    | .w => i % 8 ≠ 0 ∧ i = j + 1 := by
  cases d <;> simp only [nbr, Option.ite_none_right_eq_some, Option.some.injEq]
  · omega
  · exact and_congr_right fun h => by omega

theorem nbr_diff (i j : Nat) (d : Spec.Dir) (h : nbr i d = some j) :
    j = i + 8 ∨ i = j + 8 ∨ j = i + 1 ∨ i = j + 1 := by
  have h' := (nbr_eq_some i j d).mp h
  cases d
  · exact Or.inr (Or.inl h')
  · exact Or.inr (Or.inr (Or.inl h'.2.symm))
  · exact Or.inl h'.2.symm
  · exact Or.inr (Or.inr (Or.inr h'.2))

/-- `x` and `j` each differ from `i` by one of ±1, ±8, and no difference of two of these is again ±1 or ±8 -/
theorem nbrs_not_adjacent (i x j : Nat) (d1 d2 d3 : Spec.Dir) (h1 : nbr i d1 = some x) (h2 : nbr i d2 = some j)
    (h3 : nbr x d3 = some j) : False := by
  have p1 := nbr_diff i x d1 h1
  have p2 := nbr_diff i j d2 h2
  have p3 := nbr_diff x j d3 h3
  omega

theorem nbr_lt (i j : Nat) (d : Spec.Dir) (hi : i < 64) (h : nbr i d = some j) : j < 64 := by
  rw [nbr_eq_some] at h
  cases d <;> omega

theorem nbr_ne (i j : Nat) (d : Spec.Dir) (h : nbr i d = some j) : j ≠ i := by
  rw [nbr_eq_some] at h
  cases d <;> omega

theorem Dir.opp_opp (d : Spec.Dir) : d.opp.opp = d := by cases d <;> rfl

theorem nbr_opp (i j : Nat) (d : Spec.Dir) (hi : i < 64) (h : nbr i d = some j) : nbr j d.opp = some i := by
  rw [nbr_eq_some] at h ⊢
  cases d <;> simp only [Spec.Dir.opp] at h ⊢ <;> omega

theorem Dir.mem_all (d : Spec.Dir) : d ∈ Spec.Dir.all := by cases d <;> decide

theorem nbAny_congr (f g : Nat → Bool) (i : Nat) (h : ∀ j, f j = g j) : nbAny f i = nbAny g i := by
  have : f = g := funext h
  rw [this]

theorem nbAny_or (f g : Nat → Bool) (i : Nat) :
    nbAny (fun j => f j || g j) i = (nbAny f i || nbAny g i) := by
  simp only [nbAny, Bool.and_or_distrib_left]
  ac_rfl

theorem nbAny_false (i : Nat) : nbAny (fun _ => false) i = false := by simp [nbAny]

theorem nbAny_and (c : Bool) (f : Nat → Bool) (i : Nat) :
    nbAny (fun j => c && f j) i = (c && nbAny f i) := by
  cases c
  · exact nbAny_false i
  · rfl

theorem any_ite (c : Prop) [Decidable c] (x : Nat) (f : Nat → Bool) :
    (if c then some x else none : Option Nat).any f = (decide c && f x) := by
  by_cases h : c <;> simp only [h, if_true, if_false, Option.any_some, Option.any_none, decide_true,
    decide_false, Bool.true_and, Bool.false_and]

theorem nbAny_eq (f : Nat → Bool) (i : Nat) : nbAny f i = Spec.Dir.all.any fun d => (nbr i d).any f := by
  simp only [nbAny, Spec.Dir.all, List.any_cons, List.any_nil, nbr, any_ite, Bool.or_false]
  ac_rfl

theorem nbAny_iff (f : Nat → Bool) (i : Nat) :
    nbAny f i = true ↔ ∃ d j, nbr i d = some j ∧ f j = true := by
  simp only [nbAny_eq, List.any_eq_true, Option.any_eq_true, Spec.Dir.mem_all, true_and]

theorem nbAny_piece_iff (b : Spec.Board) (f : Nat → Bool) (P : Nat → Cell → Prop)
    (hf : ∀ k, f k = true ↔ ∃ c, b k = some c ∧ P k c) (i : Nat) :
    nbAny f i = true ↔ ∃ d k c, nbr i d = some k ∧ b k = some c ∧ P k c := by
  rw [nbAny_iff]
  constructor
  · rintro ⟨d, k, hn, h⟩
    obtain ⟨c, hc, hp⟩ := (hf k).1 h
    exact ⟨d, k, c, hn, hc, hp⟩
  · rintro ⟨d, k, c, hn, hc, hp⟩
    exact ⟨d, k, hn, (hf k).2 ⟨c, hc, hp⟩⟩

theorem hasFriend_iff (b : Spec.Board) (k : Nat) (g : Bool) :
    hasFriend b k g = true ↔ ∃ d f cf, nbr k d = some f ∧ b f = some cf ∧ cf.gold = g :=
  nbAny_piece_iff b _ (fun _ cf => cf.gold = g) (fun f => by unfold ownedBy; cases b f <;> simp) k

theorem hasStrongerEnemy_iff (b : Spec.Board) (x : Nat) (g : Bool) (s : Nat) :
    hasStrongerEnemy b x g s = true ↔
      ∃ d k ck, nbr x d = some k ∧ b k = some ck ∧ ck.gold ≠ g ∧ s < ck.piece.strength :=
  nbAny_piece_iff b _ (fun _ ck => ck.gold ≠ g ∧ s < ck.piece.strength) (fun k => by cases b k <;> simp) x

def cellStr : Option Cell → Nat
  | some c => c.piece.strength
  | none => 0

theorem cellStr_some (c : Cell) : cellStr (some c) = c.piece.strength := rfl

theorem hasStrongerEnemy_eq (β : Board) (i : Nat) (g : Bool) (s : Nat) :
    hasStrongerEnemy β i g s = nbAny (fun j => ownedBy β (!g) j && decide (s < cellStr (β j))) i := by
  refine nbAny_congr _ _ i fun j => ?_
  unfold ownedBy
  cases β j with
  | none => rfl
  | some c => obtain ⟨g', _⟩ := c; cases g' <;> cases g <;> rfl

theorem hasPusher_iff (b : Spec.Board) (gold : Bool) (i : Nat) (s : Nat) :
    hasPusher b gold i s = true ↔
      ∃ d x cx, nbr i d = some x ∧ b x = some cx ∧ cx.gold = gold ∧ frozen b x = false ∧
        s < cx.piece.strength :=
  nbAny_piece_iff b _ (fun x cx => cx.gold = gold ∧ frozen b x = false ∧ s < cx.piece.strength)
    (fun x => by cases b x <;> simp [and_assoc]) i

theorem hasPusher_lt (b : Spec.Board) (g : Bool) (i k : Nat) (h : hasPusher b g i k = true) : k < 5 := by
  obtain ⟨_, _, cx, _, _, _, _, hk⟩ := (hasPusher_iff ..).1 h
  have : cx.piece.strength ≤ 5 := by cases cx.piece <;> decide
  omega

theorem frozen_some (b : Spec.Board) (x : Nat) (cx : Cell) (h : b x = some cx) :
    frozen b x = (!hasFriend b x cx.gold && hasStrongerEnemy b x cx.gold cx.piece.strength) := by
  unfold frozen; rw [h]

theorem ownStep_iff (b : Spec.Board) (gold : Bool) (i : Nat) (d : Spec.Dir) :
    ownStep b gold i d = true ↔
      ∃ c j, b i = some c ∧ nbr i d = some j ∧ b j = none ∧ c.gold = gold ∧ frozen b i = false ∧
        ¬ (c.piece = .rabbit ∧ d = backward gold) := by
  unfold ownStep
  cases hb : b i with
  | none => simp
  | some c =>
    cases hn : nbr i d with
    | none => simp
    | some j =>
      simp [Option.isNone_iff_eq_none, and_assoc]
      by_cases hr : c.piece = Spec.Piece.rabbit
      · simp [hr]; exact ⟨fun ⟨a, b, c, d⟩ => ⟨c, a, b, d⟩, fun ⟨c, a, b, d⟩ => ⟨a, b, c, d⟩⟩
      · simp [hr]; exact ⟨fun ⟨a, b, c⟩ => ⟨c, a, b⟩, fun ⟨c, a, b⟩ => ⟨a, b, c⟩⟩

theorem pushStart_iff (b : Spec.Board) (gold : Bool) (s i : Nat) (d : Spec.Dir) :
    pushStart b gold s i d = true ↔
      s < 3 ∧ ∃ c j, b i = some c ∧ nbr i d = some j ∧ b j = none ∧ c.gold ≠ gold ∧
        hasPusher b gold i c.piece.strength = true := by
  unfold pushStart
  cases hb : b i with
  | none => simp
  | some c =>
    cases hn : nbr i d with
    | none => simp
    | some j => simp [Option.isNone_iff_eq_none, and_assoc, and_left_comm]

theorem pullEnd_iff (b : Spec.Board) (gold : Bool) (q : Nat) (x : Spec.Piece) (e : Nat) (de : Spec.Dir) :
    pullEnd b gold (.pull q x) e de = true ↔
      ∃ ce, b e = some ce ∧ nbr e de = some q ∧ b q = none ∧ ce.gold ≠ gold ∧
        ce.piece.strength < x.strength := by
  unfold pullEnd
  cases hb : b e with
  | none => simp
  | some c =>
    cases hn : nbr e de with
    | none => simp
    | some j =>
      simp only [Bool.and_eq_true, bne_iff_ne, ne_eq, beq_iff_eq, Option.isNone_iff_eq_none,
        decide_eq_true_eq, Option.some.injEq, exists_eq_left']
      constructor
      · rintro ⟨⟨⟨h1, h2⟩, h3⟩, h4⟩; subst h2; exact ⟨rfl, h3, h1, h4⟩
      · rintro ⟨h2, h3, h1, h4⟩; subst h2; exact ⟨⟨⟨h1, rfl⟩, h3⟩, h4⟩

theorem pullEnd_none (b : Spec.Board) (gold : Bool) (i : Nat) (d : Spec.Dir) :
    pullEnd b gold .none i d = false := by
  unfold pullEnd; rfl

theorem pushEnd_iff (b : Spec.Board) (gold : Bool) (q : Nat) (v : Spec.Piece) (x : Nat) (dx : Spec.Dir) :
    pushEnd b gold (.push q v) x dx = true ↔
      ∃ cx, b x = some cx ∧ nbr x dx = some q ∧ b q = none ∧ cx.gold = gold ∧ frozen b x = false ∧
        v.strength < cx.piece.strength := by
  unfold pushEnd
  cases hb : b x with
  | none => simp
  | some c =>
    cases hn : nbr x dx with
    | none => simp
    | some j =>
      simp only [Bool.and_eq_true, beq_iff_eq, Option.isNone_iff_eq_none, Bool.not_eq_true',
        decide_eq_true_eq, Option.some.injEq, exists_eq_left']
      constructor
      · rintro ⟨⟨⟨⟨h1, h2⟩, h3⟩, h4⟩, h5⟩; subst h1; exact ⟨rfl, h2, h3, h4, h5⟩
      · rintro ⟨h1, h2, h3, h4, h5⟩; subst h1; exact ⟨⟨⟨⟨rfl, h2⟩, h3⟩, h4⟩, h5⟩

/-- the piece on the square cannot be of both colours -/
theorem ownStep_not_enemy (b : Spec.Board) (gold : Bool) (step : Nat) (pend : Pending) (i : Nat) (d : Spec.Dir)
    (h1 : ownStep b gold i d = true) : pushStart b gold step i d = false ∧ pullEnd b gold pend i d = false := by
  obtain ⟨c, _, hc, _, _, hg, _⟩ := (ownStep_iff ..).1 h1
  refine ⟨Bool.eq_false_iff.2 fun h => ?_, Bool.eq_false_iff.2 fun h => ?_⟩
  · obtain ⟨_, c', _, hc', _, _, hg', _⟩ := (pushStart_iff ..).1 h
    exact hg' (Option.some.inj (hc'.symm.trans hc) ▸ hg)
  · cases pend with
    | pull q x =>
      obtain ⟨c', hc', _, _, hg', _⟩ := (pullEnd_iff ..).1 h
      exact hg' (Option.some.inj (hc'.symm.trans hc) ▸ hg)
    | none | push => cases h

theorem strength_pos_not_rabbit (p : Spec.Piece) (n : Nat) (h : n < p.strength) : p ≠ .rabbit := by
  intro e; subst e; simp [Piece.strength] at h

theorem move_src (b : Spec.Board) (i j : Nat) (h : i ≠ j) : move b i j i = none := by
  simp [move, h]

theorem move_dst (b : Spec.Board) (i j : Nat) : move b i j j = b i := by
  simp [move]

theorem move_other (b : Spec.Board) (i j k : Nat) (h1 : k ≠ i) (h2 : k ≠ j) : move b i j k = b k := by
  simp [move, h1, h2]

theorem applyStep_eq (b : Spec.Board) (i j : Nat) (d : Spec.Dir) (hn : nbr i d = some j) :
    applyStep b i d = capture (move b i j) := by
  unfold applyStep; rw [hn]

theorem isTrap_lt (k : Nat) (h : isTrap k = true) : k < 64 := by
  simp only [isTrap, Bool.or_eq_true, beq_iff_eq] at h; omega

theorem enabledMove_none (b : Spec.Board) (gold : Bool) (s i : Nat) (d : Spec.Dir) :
    enabledMove b gold s .none i d = (ownStep b gold i d || pushStart b gold s i d) := by
  simp [enabledMove, Pending.isPush, pullEnd_none]

theorem enabledMove_pull (b : Spec.Board) (gold : Bool) (s i q : Nat) (x : Spec.Piece) (d : Spec.Dir) :
    enabledMove b gold s (.pull q x) i d =
      (ownStep b gold i d || pushStart b gold s i d || pullEnd b gold (.pull q x) i d) := by
  simp [enabledMove, Pending.isPush]

theorem enabledMove_push (b : Spec.Board) (gold : Bool) (s i q : Nat) (t : Spec.Piece) (d : Spec.Dir) :
    enabledMove b gold s (.push q t) i d = pushEnd b gold (.push q t) i d := by
  simp [enabledMove, Pending.isPush]

theorem nextPending_friend (b : Spec.Board) (gold : Bool) (pend : Pending) (i : Nat) (d : Spec.Dir) (c : Cell)
    (hi : b i = some c) (hg : c.gold = gold) (hp : pend.isPush = false) :
    nextPending b gold pend i d = if c.piece ≠ .rabbit then .pull i c.piece else .none := by
  unfold nextPending; rw [hi]; simp [hg, hp]

theorem nextPending_enemy (b : Spec.Board) (gold : Bool) (pend : Pending) (i : Nat) (d : Spec.Dir) (c : Cell)
    (hi : b i = some c) (hg : c.gold ≠ gold) :
    nextPending b gold pend i d = if pullEnd b gold pend i d then .none else .push i c.piece := by
  unfold nextPending; rw [hi]; simp [hg]

theorem nextPending_complete (b : Spec.Board) (gold : Bool) (pend : Pending) (i : Nat) (d : Spec.Dir) (c : Cell)
    (hi : b i = some c) (hg : c.gold = gold) (hp : pend.isPush = true) :
    nextPending b gold pend i d = .none := by
  unfold nextPending; rw [hi]; simp [hg, hp]

theorem nextPending_pushEnd (b : Spec.Board) (gold : Bool) (q : Nat) (v : Spec.Piece) (x : Nat) (d : Spec.Dir)
    (h : pushEnd b gold (.push q v) x d = true) : nextPending b gold (.push q v) x d = .none := by
  obtain ⟨c, hc, _, _, hg, _⟩ := (pushEnd_iff ..).1 h
  exact nextPending_complete b gold _ x d c hc hg rfl

/-- the four kinds of enabled step of the piece `c`, each with the obligation `p` it leaves
(`enabled_cases`); `p` is a parameter with an equation, not an index, so that `cases` works when it is
`nextPending …`.  A started push is given by what it needs (room in the turn, a pusher for `c`), not
by `pushStart … = true`, which would name the piece a second time. -/
inductive StepKind (b : Spec.Board) (gold : Bool) (step : Nat) (pend : Pending) (i : Nat) (d : Spec.Dir)
    (c : Cell) (p : Pending) : Prop where
  | own (hg : c.gold = gold) (hp : pend.isPush = false) (h : ownStep b gold i d = true)
      (e : p = if c.piece ≠ .rabbit then .pull i c.piece else .none)
  | pushEnd (hg : c.gold = gold) (q : Nat) (v : Spec.Piece) (hp : pend = .push q v)
      (h : pushEnd b gold (.push q v) i d = true) (e : p = .none)
  | pullEnd (hg : c.gold ≠ gold) (q : Nat) (x : Spec.Piece) (hp : pend = .pull q x)
      (h : pullEnd b gold (.pull q x) i d = true) (e : p = .none)
  | pushStart (hg : c.gold ≠ gold) (hp : pend.isPush = false) (hpe : pullEnd b gold pend i d = false)
      (hs : step < 3) (hpu : hasPusher b gold i c.piece.strength = true) (e : p = .push i c.piece)

theorem enabled_cases (b : Spec.Board) (gold : Bool) (step : Nat) (pend : Pending) (i : Nat) (d : Spec.Dir)
    (h : enabledMove b gold step pend i d = true) :
    ∃ c j, b i = some c ∧ nbr i d = some j ∧ b j = none ∧
      StepKind b gold step pend i d c (nextPending b gold pend i d) := by
  -- the part common to `none` and to a `pull` that this step does not end
  have free : ∀ p, p.isPush = false → pullEnd b gold p i d = false →
      (ownStep b gold i d || pushStart b gold step i d) = true → ∃ c j, b i = some c ∧ nbr i d = some j ∧
        b j = none ∧ StepKind b gold step p i d c (nextPending b gold p i d) := by
    intro p hp hpe h
    rcases Bool.or_eq_true_iff.1 h with h | h
    · obtain ⟨c, j, hc, hn, hj, hg, _⟩ := (ownStep_iff ..).1 h
      exact ⟨c, j, hc, hn, hj, .own hg hp h (nextPending_friend b gold p i d c hc hg hp)⟩
    · obtain ⟨hs, c, j, hc, hn, hj, hg, hpu⟩ := (pushStart_iff ..).1 h
      exact ⟨c, j, hc, hn, hj, .pushStart hg hp hpe hs hpu (by rw [nextPending_enemy b gold p i d c hc hg, hpe]; rfl)⟩
  cases pend with
  | push q v =>
    rw [enabledMove_push] at h
    obtain ⟨c, hc, hn, hq, hg, _⟩ := (pushEnd_iff ..).1 h
    exact ⟨c, q, hc, hn, hq, .pushEnd hg q v rfl h (nextPending_complete b gold _ i d c hc hg rfl)⟩
  | none => exact free _ rfl (pullEnd_none ..) (enabledMove_none .. ▸ h)
  | pull q x =>
    rw [enabledMove_pull] at h
    cases hpe : pullEnd b gold (.pull q x) i d with
    | true =>
      obtain ⟨c, hc, hn, hq, hg, _⟩ := (pullEnd_iff ..).1 hpe
      exact ⟨c, q, hc, hn, hq, .pullEnd hg q x rfl hpe (by rw [nextPending_enemy b gold _ i d c hc hg, hpe]; rfl)⟩
    | false => exact free _ rfl hpe (by rwa [hpe, Bool.or_false] at h)

/-- a status that can be hashed: no pulling rabbit, no pushed elephant (the two `panic!` arms of
`zobrist.rs`) -/
def Pending.Hashable : Pending → Prop
  | .none => True
  | .pull _ x => x ≠ .rabbit
  | .push _ v => v ≠ .elephant

theorem nextPending_hashable (b : Spec.Board) (gold : Bool) (step : Nat) (pend : Pending) (i : Nat) (d : Spec.Dir)
    (h : enabledMove b gold step pend i d = true) : (nextPending b gold pend i d).Hashable := by
  obtain ⟨c, _, _, _, _, k⟩ := enabled_cases _ _ _ _ _ _ h
  cases k with
  | own _ _ _ e =>
    rw [e]
    split
    · assumption
    · trivial
  | pushEnd _ _ _ _ _ e | pullEnd _ _ _ _ _ e => rw [e]; trivial
  | pushStart _ _ _ _ hpu e =>
    -- a pushed piece has a strictly stronger piece next to it
    rw [e]
    intro ev
    have := hasPusher_lt _ _ _ _ hpu
    rw [ev] at this
    exact absurd this (by decide)

end Arimaa.Spec

namespace Arimaa.TurnLemmas
open Spec

theorem pullEnd_push (b : Spec.Board) (gold : Bool) (q : Nat) (t : Spec.Piece) (i : Nat) (d : Spec.Dir) :
    pullEnd b gold (.push q t) i d = false := by
  unfold pullEnd; rfl

end Arimaa.TurnLemmas
