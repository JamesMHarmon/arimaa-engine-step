import Arimaa.Lemmas.ParsePrint
import Arimaa.Lemmas.HashInv

/-!
C15 — printing and parsing positions round-trips; parsing never crashes.

`parseState : List Char → Outcome GameState` models `<GameState as FromStr>::from_str` after the
repairs F5 (the move number is parsed with `?`, not `unwrap`) and F6 (a piece outside the 8×8 grid
is an error); `showState` models `<GameState as Display>::fmt`.
-/
namespace Arimaa
open Gen

/-- Every successfully parsed diagram is a well-formed position (each square carries at most one
piece type, `all` is the union of the six type boards, gold pieces are inside `all`) and a
start-of-turn play-phase state: step 0 (`prev = []`), no push/pull obligation, no pending trap flag,
hash history consisting of the state's own hash, and the hash is the from-scratch Zobrist value of
(board, side, step 0). -/
theorem C15_parse_wf (t : List Char) (s : GameState) (h : parseState t = .ok s) :
    WF s.board ∧
    s.hash = zFromPieceBoard s.board s.p1Turn 0 ∧
    s.phase = .play { prev := [], pps := .none, initHash := s.hash, hist := [s.hash],
                      trapped := false } ∧
    (∃ pp, s.phase = .play pp ∧ pp.step = 0) := by
  obtain ⟨hw, hp, hh⟩ := parseState_startOk t s h
  exact ⟨hw, hh, hp, _, hp, rfl⟩

/-- Parsing arbitrary text never panics: the outcome is an error or a state. -/
theorem C15_no_panic (t : List Char) :
    parseState t ≠ .panic ∧ (parseState t = .err ∨ ∃ s, parseState t = .ok s) := by
  refine ⟨parseState_no_panic t, ?_⟩
  cases h : parseState t with
  | ok s => exact Or.inr ⟨s, rfl⟩
  | err => exact Or.inl rfl
  | panic => exact absurd h (parseState_no_panic t)

/-- The header.  Let `seg0` be the text before the first `'|'`.  `HeaderMatch seg0 ds c` says that
`seg0 = sp ++ ds ++ c :: rest` with `sp` all `\s`, `ds` a non-empty run of `\d` and `c ∈ gswb`, i.e.
the regex `^\s*(\d+)([gswb])` matches with capture groups `ds`, `c` (the capture groups are unique
because the three character classes are disjoint).
* If it matches and the digits are all ASCII with a decimal value `≤ usize::MAX`, every successful
  parse carries that value as move number and Gold to move iff `c` is not `s`/`b`.
* If it matches and a digit is not ASCII or the value exceeds `usize::MAX`, the result is `Err`.
* If it does not match, a successful parse has move number 2 and Gold to move. -/
theorem C15_header_cases (t : List Char) :
    (∀ ds c, HeaderMatch (t.takeWhile (· != '|')) ds c →
      (((∀ x ∈ ds, '0' ≤ x ∧ x ≤ '9') ∧ decimalValue ds ≤ usizeMax) →
        ∀ s, parseState t = .ok s →
          s.moveNo = decimalValue ds ∧ s.p1Turn = (c != 's' && c != 'b')) ∧
      (¬ ((∀ x ∈ ds, '0' ≤ x ∧ x ≤ '9') ∧ decimalValue ds ≤ usizeMax) → parseState t = .err)) ∧
    ((¬ ∃ ds c, HeaderMatch (t.takeWhile (· != '|')) ds c) →
      ∀ s, parseState t = .ok s → s.moveNo = 2 ∧ s.p1Turn = true) := by
  refine ⟨fun ds c hm => ⟨fun hok s hs => ?_, fun hbad => ?_⟩, fun hn s hs => ?_⟩
  · obtain ⟨n, g, b, hh, _, rfl⟩ := (parseState_ok_iff t s).mp hs
    rw [headerOf_match hm, parseUsize_eq, if_pos hok] at hh
    cases hh
    exact ⟨rfl, rfl⟩
  · rw [parseState_err_iff, headerOf_match hm, parseUsize_eq, if_neg hbad]
    exact .inl rfl
  · obtain ⟨n, g, b, hh, _, rfl⟩ := (parseState_ok_iff t s).mp hs
    rw [headerOf_no_match hn] at hh
    cases hh
    exact ⟨rfl, rfl⟩

/-- Exactly which texts are rejected.  `cellAt t r c` is the character the parser samples for row
`r`, column `c` (the `c`-th odd character of the `r`-th odd `'|'`-separated segment);
`PieceOutside t` says some piece letter sits at a row or column index `≥ 8`.  The parse returns
`Err` iff the header matches with an unparsable move number (non-ASCII digit or value above
`usize::MAX`) or a piece letter lies outside the 8×8 grid; by `C15_no_panic` every other text
yields a state. -/
theorem C15_err_iff (t : List Char) :
    parseState t = .err ↔
      (∃ ds c, HeaderMatch (t.takeWhile (· != '|')) ds c ∧
        ¬ ((∀ x ∈ ds, '0' ≤ x ∧ x ≤ '9') ∧ decimalValue ds ≤ usizeMax)) ∨
      PieceOutside t := by
  simp only [parseState_err_iff, headerOf_eq_none_iff, parseUsize_eq, ite_eq_right_iff, reduceCtorEq,
    imp_false]

/-- The board of a successful parse, square by square: square `i` is in the board of type `f` iff
the sampled character of row `i / 8`, column `i % 8` is a letter of `f` (either case), and in the
gold board iff that letter is upper case.  (So the parsed position is a function of the 8×8
character grid alone.) -/
theorem C15_parse_board (t : List Char) (s : GameState) (h : parseState t = .ok s) (i : Nat) :
    (∀ f, bit (s.board.typeBits f) i = true ↔
      ∃ ch, cellAt t (i / 8) (i % 8) = some ch ∧ charToPiece ch = some f) ∧
    (bit s.board.p1 i = true ↔
      ∃ ch, cellAt t (i / 8) (i % 8) = some ch ∧ (charToPiece ch).isSome = true ∧
        ch.isUpper = true) := by
  have hr := parseState_rep t s h i
  have h1 : ∀ f, bit (s.board.typeBits f) i = _ := fun f => hr (.type f)
  have h2 : bit s.board.p1 i = _ := hr .p1
  rw [h2]
  simp only [h1, gridBoard]
  cases cellAt t (i / 8) (i % 8) with
  | none => simp [Plane.shows]
  | some ch =>
    cases hp : charToPiece ch with
    | none => simp [charCell, hp, Plane.shows]
    | some p => simp [charCell, hp, Plane.shows, toSpec_beq]

/-- Round trip.  For every state (any phase, any step) whose board is well-formed and whose move
number fits `usize`, parsing the printed diagram succeeds and yields a state with the same board
(all eight words), side to move and move number, whose printed form is identical.  (By
`C15_parse_wf` the result is a start-of-turn play-phase state.) -/
theorem C15_roundtrip (s : GameState) (hw : WF s.board) (hn : s.moveNo ≤ usizeMax) :
    ∃ s', parseState (showState s) = .ok s' ∧ s'.board = s.board ∧ s'.p1Turn = s.p1Turn ∧
      s'.moveNo = s.moveNo ∧ showState s' = showState s :=
  ⟨_, parseState_showState_eq s hw hn, rfl, rfl, rfl, rfl⟩

/-- The bound in `C15_roundtrip` is necessary: the printed form of a state whose move number exceeds
`usize::MAX` (only the model has such states: in the code the counter is a `usize` and overflows first,
finding F4) is rejected with an error. -/
theorem C15_roundtrip_needs_bound (s : GameState) (hn : usizeMax < s.moveNo) :
    parseState (showState s) = .err :=
  parseState_showState_big s hn

/-- Hash.  If `s` is a start-of-turn play-phase state (step 0) that satisfies the hash invariant
`HashOk` (its stored hash is the from-scratch Zobrist value) and the turn invariant `TurnInv` (at
step 0 no push/pull status is pending), then the state parsed from its printed diagram has the
same transposition hash. -/
theorem C15_hash (s : GameState) (hw : WF s.board) (hn : s.moveNo ≤ usizeMax) (pp : PlayPhase)
    (hp : s.phase = .play pp) (h0 : pp.step = 0) (hh : HashOk s) (hti : GameState.TurnInv s) :
    ∃ s', parseState (showState s) = .ok s' ∧
      s'.transpositionHash = s.transpositionHash ∧ s'.hash = s.hash := by
  have hs : s.hash = zFromPieceBoard s.board s.p1Turn 0 := by
    rw [← h0]; exact (HashOk_play s pp hp).mp hh
  have hpps : pp.pps = .none := ((hti.play hp).2 h0).1
  refine ⟨_, parseState_showState_eq s hw hn, ?_, hs.symm⟩
  unfold GameState.transpositionHash
  rw [hp]
  simp only [diagramState, hpps, ← hs, PlayPhase.initial]

/-- a concrete position: both armies on their home ranks, Silver to move in move 14, two steps
into the turn (the printed form forgets the step) -/
def exBoard : Board :=
  Board.new 0xffff000000000000#64 0x1000000000000010#64 0x0800000000000008#64
    0x8100000000000081#64 0x2400000000000024#64 0x4200000000000042#64 0x00ff00000000ff00#64

def exState : GameState :=
  { p1Turn := false, moveNo := 14, board := exBoard, hash := 0,
    phase := .play { prev := [exBoard, exBoard], pps := .none, initHash := 0, hist := [],
                     trapped := false } }

theorem exBoard_wf : WF exBoard := wf_of_wfWords _ (by decide +kernel)

/-- the hypotheses of `C15_roundtrip` are satisfiable -/
example : WF exState.board ∧ exState.moveNo ≤ usizeMax := ⟨exBoard_wf, by decide⟩

/-- the printed form of the example.  In this and the later examples `"…".toList` is first rewritten
to the list of the literal's characters with `String.toList_ofList` (the kernel reads a literal as
`String.ofList [..]`): evaluating `String.toList` itself decodes UTF-8 from a byte array, which in
the kernel is quadratic in the length. -/
example : showState exState =
    ("14s\n +-----------------+\n" ++
     "8| h c d m e d c h |\n7| r r r r r r r r |\n6|     x     x     |\n5|                 |\n" ++
     "4|                 |\n3|     x     x     |\n2| R R R R R R R R |\n1| H C D M E D C H |\n" ++
     " +-----------------+\n   a b c d e f g h\n").toList := by
  rw [String.toList_append, String.toList_append, String.toList_append, String.toList_ofList,
    String.toList_ofList, String.toList_ofList, String.toList_ofList]
  decide +kernel

example :
    (match parseState (showState exState) with
     | .ok s' => decide (s'.board = exState.board ∧ s'.p1Turn = exState.p1Turn ∧
         s'.moveNo = exState.moveNo ∧ showState s' = showState exState)
     | _ => false) = true := by decide +kernel

/-- a start-of-turn state satisfying all hypotheses of `C15_hash` -/
def exState0 : GameState :=
  let h := zFromPieceBoard exBoard true 0
  { p1Turn := true, moveNo := 2, board := exBoard, hash := h,
    phase := .play (PlayPhase.initial h [h]) }

example : WF exState0.board ∧ exState0.moveNo ≤ usizeMax ∧
    exState0.phase = .play (PlayPhase.initial exState0.hash [exState0.hash]) ∧
    (PlayPhase.initial exState0.hash [exState0.hash]).step = 0 ∧ HashOk exState0 ∧
    GameState.TurnInv exState0 :=
  ⟨exBoard_wf, by decide, rfl, rfl, rfl, GameState.turnInv_of_initial _ _ _ rfl⟩

/-- malformed texts give `Err` (not a panic): an oversized move number (F5) … -/
example : parseState "99999999999999999999999g\n +-----------------+\n8| r |\n".toList = .err := by
  rw [String.toList_ofList]
  decide +kernel

/-- … a non-ASCII decimal digit matched by `\d` (Arabic-Indic five) … -/
example : parseState "٥g\n".toList = .err := by
  rw [String.toList_ofList]
  decide +kernel

/-- … a ninth row carrying a piece (F6) … -/
example : parseState
    "2g\n1| |\n2| |\n3| |\n4| |\n5| |\n6| |\n7| |\n8| |\n9| r |\n".toList = .err := by
  rw [String.toList_ofList]
  decide +kernel

/-- … and a piece in the ninth column (F6). -/
example : parseState "2g\n8| . . . . . . . . R |\n".toList = .err := by
  rw [String.toList_ofList]
  decide +kernel

/-- extra rows and columns without pieces are accepted, the header may be absent.  (Under a `match`
the literal is generalized first: rewriting there would make the kernel compare the two `match`
terms by evaluating both.) -/
example : (match parseState "8| . . . . . . . . . |\n|\n|\n|\n|\n|\n|\n|\n| . |\n".toList with
    | .ok s => decide (s.moveNo = 2 ∧ s.p1Turn = true ∧ s.board = Board.empty)
    | _ => false) = true := by
  generalize h : String.toList _ = l
  cases h.symm.trans String.toList_ofList
  decide +kernel

/-- the header alternative `b` and leading white space -/
example : (match parseState " \t176b\n".toList with
    | .ok s => decide (s.moveNo = 176 ∧ s.p1Turn = false)
    | _ => false) = true := by decide +kernel

end Arimaa
