import Arimaa.Lemmas.Frozen
import Arimaa.Lemmas.Move
import Arimaa.Lemmas.SpecCapture
-- Not used below: imported so that every property resting on these lemmas has the agreement of the
-- capture helpers with the translated source in its closure.
import Arimaa.Lemmas.GenAgreeCapture

/-!
`trapped_piece_bits` marks the hanging squares of the specification, so `remove_trapped_pieces` refines `Spec.capture`
and `Board.takeMove` refines `Spec.applyStep`.
-/
namespace Arimaa
open Gen Spec

theorem isTrapIdx_eq (k : Nat) : isTrapIdx k = Spec.isTrap k := rfl

/-- Gold's pieces are `b.p1`, Silver's `b.playerPieceMask false`: the two operands of
`supported(p1) | supported(all & !p1)` in `both_player_supported_pieces` -/
theorem trapped_bit (b : Board) (k : Nat) (hk : k < 64) :
    bit b.trappedPieceBits k =
      (bit b.all k && isTrapIdx k &&
        !((bit b.p1 k && nbAny (bit b.p1) k) ||
          (bit (b.playerPieceMask false) k && nbAny (bit (b.playerPieceMask false)) k))) := by
  unfold Board.trappedPieceBits
  split
  · unfold bothPlayerUnsupportedPieceBits bothPlayerSupportedPieces
    rw [show b.all &&& ~~~b.p1 = b.playerPieceMask false from BitVec.and_comm _ _, bit_and, bit_and, bit_not,
      bit_or, supported_bit _ k hk, supported_bit _ k hk, trap_bit k hk, decide_eq_true hk, Bool.true_and,
      Bool.and_right_comm]
  · rename_i h0
    have h : (b.all &&& TRAP_MASK) = 0 := by simpa [animalIsOnTrap] using h0
    rw [← trap_bit k hk, ← bit_and, h, bit_zero, Bool.false_and]

theorem removeTrapped_plane (b : Board) (π : Plane) :
    b.removeTrappedPieces.1.plane π = b.plane π &&& ~~~b.trappedPieceBits := by
  unfold Board.removeTrappedPieces
  by_cases h : b.trappedPieceBits = 0#64
  · simp only [h, BitVec.not_zero, BitVec.and_allOnes]
    rfl
  · have : (b.trappedPieceBits != 0) = true := by simp [h]
    simp only [this, if_true]
    cases π with
    | type f => cases f <;> rfl
    | _ => rfl

theorem removeTrapped_flag (b : Board) : (b.removeTrappedPieces).2 = (b.trappedPieceBits != 0) := by
  unfold Board.removeTrappedPieces
  by_cases h0 : b.trappedPieceBits = 0#64 <;> simp [h0]

theorem Rep.trapped_bit {b : Board} {β : Spec.Board} (h : Rep b β) (k : Nat) (hk : k < 64) :
    bit b.trappedPieceBits k = hanging β k := by
  rw [Arimaa.trapped_bit b k hk, show b.p1 = b.playerPieceMask true from rfl, h.nbAny_side, h.nbAny_side,
    h.side_bit, h.side_bit, h.all_bit, isTrapIdx_eq]
  unfold hanging ownedBy
  -- the cell's colour selects one disjunct of the both-player support test
  cases β k with
  | none => rfl
  | some c => obtain ⟨g, _⟩ := c; cases g <;> simp

theorem Rep.removeTrapped {b : Board} {β : Spec.Board} (h : Rep b β) :
    Rep b.removeTrappedPieces.1 (capture β) := by
  intro k π
  rw [removeTrapped_plane, bit_and, bit_not, h k π, capture_apply]
  by_cases hk : k < 64
  · rw [h.trapped_bit k hk, decide_eq_true hk]
    cases hanging β k <;> simp [Plane.shows_none]
  · rw [decide_eq_false hk, Bool.false_and, Bool.and_false]
    split
    · rfl
    · rw [← h k π, bit_ge _ _ (by omega)]

theorem Rep.takeMove {b : Board} {β : Spec.Board} (h : Rep b β) {sq j : Nat} {d : Dir} (hsq : sq < 64)
    (hn : nbr sq (dirSpec d) = some j) (he : β j = none) :
    Rep (b.takeMove sq d).1 (applyStep β sq (dirSpec d)) := by
  unfold applyStep
  rw [hn]
  exact (h.movePiece hsq hn he).removeTrapped

end Arimaa
