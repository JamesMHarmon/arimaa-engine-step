import Arimaa.Props.C09
import Arimaa.Props.C10
import Arimaa.Props.C02b

/-!
C10 (continued) — "Each side has at most 1 elephant, 1 camel, 2 horses, 2 dogs, 2 cats and
8 rabbits".

All statements are about `absBoard s.board`, which by `C10_views_agree` is what every view of the
board shows; `complement` is the army 1, 1, 2, 2, 2, 8.
-/
namespace Arimaa
open Spec

/-- number of pieces of one colour and type on the board -/
def countCells (b : Spec.Board) (c : Cell) : Nat := ((List.range 64).filter (fun k => b k == some c)).length

/-- it is `cellCount` of Lemmas/Count.lean -/
theorem C10_cellCount_eq_countCells (b : Spec.Board) (c : Cell) : cellCount b c = countCells b c := rfl

/-- **Material during setup.**  After any offered placements `ps` from the initial state, the board
holds, of each type `t`, exactly as many Gold pieces as `t` occurs among the first sixteen
placements and as many Silver pieces as `t` occurs among the later ones; both numbers are within
the complement, so each side has at most 1 elephant, 1 camel, 2 horses, 2 dogs, 2 cats, 8 rabbits
in every setup state. -/
theorem C10_material_setup {ps : List Piece} {s : GameState} (hr : SetupRun ps s) :
    (∀ t, cellCount (absBoard s.board) ⟨true, toSpec t⟩ = (ps.take 16).count t ∧
      cellCount (absBoard s.board) ⟨false, toSpec t⟩ = (ps.drop 16).count t) ∧
    MaterialOk (absBoard s.board) := by
  refine ⟨fun t => ⟨setupRun_cellCount hr true t, setupRun_cellCount hr false t⟩, (materialOk_iff _).mpr fun g t => ?_⟩
  rw [setupRun_cellCount hr g t]
  exact setupRun_count_le hr g t

/-- **Material after a finished setup.**  After the thirty-second offered placement each side has
exactly 1 elephant, 1 camel, 2 horses, 2 dogs, 2 cats and 8 rabbits on the board. -/
theorem C10_material_after_setup {ps : List Piece} {s : GameState} (hr : SetupRun ps s) (h32 : ps.length = 32)
    (g : Bool) :
    (∀ t, cellCount (absBoard s.board) ⟨g, toSpec t⟩ = complement t) ∧
    cellCount (absBoard s.board) ⟨g, .elephant⟩ = 1 ∧ cellCount (absBoard s.board) ⟨g, .camel⟩ = 1 ∧
    cellCount (absBoard s.board) ⟨g, .horse⟩ = 2 ∧ cellCount (absBoard s.board) ⟨g, .dog⟩ = 2 ∧
    cellCount (absBoard s.board) ⟨g, .cat⟩ = 2 ∧ cellCount (absBoard s.board) ⟨g, .rabbit⟩ = 8 := by
  have key : ∀ t, cellCount (absBoard s.board) ⟨g, toSpec t⟩ = complement t := by
    intro t
    obtain ⟨_, _, _, hg, hs⟩ := C09_reachable_play hr h32
    rw [setupRun_cellCount hr g t]
    cases g
    · exact hs t
    · exact hg t
  exact ⟨key, key .elephant, key .camel, key .horse, key .dog, key .cat, key .rabbit⟩

/-- **The bound is preserved in play.**  From any state satisfying the play invariant whose board is
within the bound, every state reached by actions each taken from the rule-only list (hence every
state reached by offered actions) is within the bound. -/
theorem C10_material_preserved (s : GameState) (pp : PlayPhase) (h : PlayInv s pp)
    (hm : MaterialOk (absBoard s.board)) (as : List Action) (ho : OfferedNR s as) :
    MaterialOk (absBoard (s.run as).board) :=
  materialOk_of_le _ _ (fun c => (C02_material_antitone_from_start s pp h as ho c).1) hm

/-- **Material in every game from the initial state.**  In every state reached from
`GameState::initial()` by a complete offered setup (`SetupRun ps s`, 32 placements) followed by any
list of actions each taken from the rule-only list of the state where it is applied, each side has
at most 1 elephant, 1 camel, 2 horses, 2 dogs, 2 cats and 8 rabbits.  (States during setup:
`C10_material_setup`.) -/
theorem C10_material {ps : List Piece} {s : GameState} (hr : SetupRun ps s) (h32 : ps.length = 32)
    (as : List Action) (ho : OfferedNR s as) :
    MaterialOk (absBoard (s.run as).board) ∧
    ∀ (g : Bool) (t : Piece), cellCount (absBoard (s.run as).board) ⟨g, toSpec t⟩ ≤ complement t := by
  obtain ⟨pp, h, _⟩ := playInv_of_setup hr h32
  have := C10_material_preserved s pp h (C10_material_setup hr).2 as ho
  exact ⟨this, (materialOk_iff _).mp this⟩

/-- **Material in every game from a parsed position** that is within the bound (the material part of
a legal start; a text may describe nine Gold rabbits, and then they stay): every state reached from
it by actions each taken from the rule-only list of the state where it is applied is within the
bound. -/
theorem C10_material_parsed (t : List Char) (s : GameState) (hp : parseState t = .ok s)
    (hm : MaterialOk (absBoard s.board)) (as : List Action) (ho : OfferedNR s as) :
    MaterialOk (absBoard (s.run as).board) := by
  obtain ⟨pp, h, _⟩ := C10_playInv_parsed t s hp
  exact C10_material_preserved s pp h hm as ho

/-- a complete offered setup exists (`exampleOrder_run`), so `C10_material_after_setup` and
`C10_material` apply to a real state: it has one Gold elephant and eight Silver rabbits -/
example : ∃ s : GameState, cellCount (absBoard s.board) ⟨true, .elephant⟩ = 1 ∧
    cellCount (absBoard s.board) ⟨false, .rabbit⟩ = 8 ∧ MaterialOk (absBoard (s.run []).board) := by
  obtain ⟨s, hr, h32⟩ := exampleOrder_run
  exact ⟨s, (C10_material_after_setup hr h32 true).2.1, (C10_material_after_setup hr h32 false).2.2.2.2.2.2,
    (C10_material hr h32 [] trivial).1⟩

/-- the board of `exState` (Props/C15: both armies on their home ranks) is within the bound, and it
is the board of a text that parses, so the hypotheses of `C10_material_parsed` are satisfiable -/
example : ∃ t s, parseState t = .ok s ∧ MaterialOk (absBoard s.board) := by
  have hm : MaterialOk (absBoard exBoard) := by intro g; cases g <;> decide +kernel
  obtain ⟨s', hp, hb, _⟩ := C15_roundtrip exState exBoard_wf (by decide)
  exact ⟨_, s', hp, by rw [hb]; exact hm⟩

/-- the bound is a real restriction: a board with two Gold elephants violates it -/
example : ¬ MaterialOk (absBoard (Board.new (sqBit 0 ||| sqBit 1) (sqBit 0 ||| sqBit 1) 0 0 0 0 0)) := by
  intro h
  have := (h true).1
  revert this
  decide +kernel

end Arimaa
