import Arimaa.Lemmas.Enabled
import Arimaa.Lemmas.Count

/-!
Material.  The counts of Lemmas/Count.lean (`countOn P b`; `cellCount`, the number of pieces are
instances) never rise by a step: a move onto an empty square permutes two squares, a capture only
empties squares.  On the model: the piece count `pc` along an offered step.
-/
namespace Arimaa
open Spec

theorem countOn_le_of_same_or_none (P : Option Cell → Bool) (hP : P none = false) (f g : Spec.Board)
    (h : ∀ k, k < 64 → g k = f k ∨ g k = none) : countOn P g ≤ countOn P f :=
  List.countP_mono_left fun k hk hg => by
    rcases h k (List.mem_range.mp hk) with e | e
    · rwa [e] at hg
    · rw [e, hP] at hg; cases hg

/-- both boards are the board without square `i`, with the content of `i` put back on `i` resp. on `j` -/
theorem countOn_move (P : Option Cell → Bool) (hP : P none = false) (b : Spec.Board) (i j : Nat)
    (hi : i < 64) (hj : j < 64) (hij : i ≠ j) (hbj : b j = none) :
    countOn P (move b i j) = countOn P b := by
  have hb : (fun k => if k = i then b i else if k = i then none else b k) = b := by
    funext k
    by_cases e : k = i
    · rw [if_pos e, e]
    · rw [if_neg e, if_neg e]
  exact (countOn_put P hP (fun k => if k = i then none else b k) j hj ((if_neg (Ne.symm hij)).trans hbj) (b i)).trans
    ((countOn_put P hP (fun k => if k = i then none else b k) i hi (if_pos rfl) (b i)).symm.trans
      (congrArg (countOn P) hb))

theorem countOn_capture_le (P : Option Cell → Bool) (hP : P none = false) (b : Spec.Board) :
    countOn P (capture b) ≤ countOn P b := by
  apply countOn_le_of_same_or_none P hP
  intro k _
  rw [capture_apply]
  cases hanging b k
  · left; rfl
  · right; rfl

theorem countOn_applyStep_le (P : Option Cell → Bool) (hP : P none = false) (b : Spec.Board) (i : Nat)
    (d : Spec.Dir) (hi : i < 64) (he : ∀ j, nbr i d = some j → b j = none) :
    countOn P (applyStep b i d) ≤ countOn P b := by
  unfold applyStep
  cases hn : nbr i d with
  | none => exact Nat.le_refl _
  | some j =>
    have hj := nbr_lt i j d hi hn
    have hne := nbr_ne i j d hn
    calc countOn P (capture (move b i j)) ≤ countOn P (move b i j) := countOn_capture_le P hP _
      _ = countOn P b := countOn_move P hP b i j hi hj (fun e => hne e.symm) (he j hn)

theorem countOn_capture_lt (P : Option Cell → Bool) (hP : P none = false) (b : Spec.Board) (k : Nat)
    (hk : k < 64) (hh : hanging b k = true) (hPk : P (b k) = true) :
    countOn P (capture b) < countOn P b := by
  unfold countOn
  refine countP_lt_of_witness _ _ _ (fun i _ hi => ?_) k (List.mem_range.mpr hk) hPk ?_
  · rw [capture_apply] at hi
    cases hb : hanging b i
    · rwa [hb, if_neg (by decide)] at hi
    · rw [hb, if_pos rfl, hP] at hi; cases hi
  · rw [capture_apply, if_pos hh, hP]

def pc (b : Board) : Nat := popcount b.all

theorem pc_eq_countOn (b : Board) (hw : WF b) : pc b = countOn Option.isSome (absBoard b) :=
  hw.rep.popcount_all

theorem pc_takeMove (b : Board) (hw : WF b) (sq : Nat) (d : Dir) (j : Nat) (hsq : sq < 64)
    (hn : nbr sq (dirSpec d) = some j) (hempty : absBoard b j = none) :
    pc (b.takeMove sq d).1 ≤ pc b ∧ ((b.takeMove sq d).2 = true → pc (b.takeMove sq d).1 < pc b) := by
  -- the move keeps the count (`countOn_move`) and the capture does not raise it; a set flag is a set bit of
  -- `trappedPieceBits`, that is a hanging square, which holds a piece: removing it lowers the count
  have hj := nbr_lt sq j _ hsq hn
  have hm := hw.rep.movePiece hsq hn hempty
  have hmv : countOn Option.isSome (move (absBoard b) sq j) = pc b := by
    rw [pc_eq_countOn b hw]
    exact countOn_move _ rfl _ sq j hsq hj (nbr_ne sq j _ hn).symm hempty
  unfold Board.takeMove
  rw [pc_eq_countOn _ hm.removeTrapped.wf, hm.removeTrapped.abs, ← hmv]
  refine ⟨countOn_capture_le _ rfl _, fun hflag => ?_⟩
  rw [removeTrapped_flag] at hflag
  obtain ⟨k, hk, hb⟩ := (bb_ne_zero_iff _).mp (by simpa using hflag)
  rw [hm.trapped_bit k hk] at hb
  refine countOn_capture_lt _ rfl _ k hk hb ?_
  unfold hanging at hb
  cases hc : move (absBoard b) sq j k with
  | none => rw [hc] at hb; cases hb
  | some c => rfl

theorem pc_offered_step (s : GameState) (pp : PlayPhase) (h : PlayInv s pp) (sq : Nat) (d : Dir)
    (ha : Action.move sq d ∈ s.validActionsNoRep) :
    pc (s.board.takeMove sq d).1 ≤ pc s.board ∧
      ((s.board.takeMove sq d).2 = true → pc (s.board.takeMove sq d).1 < pc s.board) := by
  obtain ⟨_, j, o⟩ := offered_step_facts s pp h sq d ha
  exact pc_takeMove s.board h.wf sq d j o.src_lt o.nbr_eq o.dst_empty

end Arimaa
