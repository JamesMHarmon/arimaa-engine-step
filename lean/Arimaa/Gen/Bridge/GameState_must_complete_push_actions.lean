-- GENERATED by /verif/tools/gen.py -- do not edit.  Bridge from the current text of `GameState::must_complete_push_actions` to the baseline text.
import Arimaa.Gen.Rs
import Arimaa.Gen.RsBase
import Arimaa.Gen.BridgeLadder
import Arimaa.Gen.Bridge.GameState_curr_player_non_frozen_pieces
import Arimaa.Gen.Bridge.GameState_unwrap_play_phase
import Arimaa.Gen.Bridge.PushPullState_unwrap_must_complete_push
import Arimaa.Gen.Bridge.piece_type_at_bit
import Arimaa.Gen.Bridge.shift_pieces_in_opp_direction

namespace Arimaa.Gen.Bridge
open Arimaa Arimaa.Gen Arimaa.Rt

set_option maxHeartbeats 1000000 in
theorem bridge_GameState_must_complete_push_actions : @Rs.GameState_must_complete_push_actions = @RsBase.GameState_must_complete_push_actions := by
  funext a0 a1
  rs_ladder [Rs.GameState_must_complete_push_actions, RsBase.GameState_must_complete_push_actions, bridge_GameState_curr_player_non_frozen_pieces, bridge_GameState_unwrap_play_phase, bridge_PushPullState_unwrap_must_complete_push, bridge_piece_type_at_bit, bridge_shift_pieces_in_opp_direction] [RsBase.GameState_curr_player_non_frozen_pieces, RsBase.GameState_unwrap_play_phase, RsBase.PushPullState_unwrap_must_complete_push, RsBase.piece_type_at_bit, RsBase.shift_pieces_in_opp_direction] (skip) [Rs.GameState_must_complete_push_actions, RsBase.GameState_must_complete_push_actions, Rs.GameState_as_play_phase, Rs.GameState_curr_player_non_frozen_pieces, Rs.GameState_opponent_piece_mask, Rs.GameState_threatened_pieces, Rs.GameState_unwrap_play_phase, Rs.PushPullState_unwrap_must_complete_push, Rs.influenced_squares, Rs.piece_type_at_bit, Rs.shift_pieces_in_opp_direction, Rs.supported_pieces, RsBase.GameState_as_play_phase, RsBase.GameState_curr_player_non_frozen_pieces, RsBase.GameState_opponent_piece_mask, RsBase.GameState_threatened_pieces, RsBase.GameState_unwrap_play_phase, RsBase.PushPullState_unwrap_must_complete_push, RsBase.influenced_squares, RsBase.piece_type_at_bit, RsBase.shift_pieces_in_opp_direction, RsBase.supported_pieces]

end Arimaa.Gen.Bridge
