-- GENERATED by /verif/tools/gen.py -- do not edit.  Bridge from the current text of `GameState::from_str` to the baseline text.
import Arimaa.Gen.Rs
import Arimaa.Gen.RsBase
import Arimaa.Gen.BridgeLadder
import Arimaa.Gen.Bridge.GameState_new
import Arimaa.Gen.Bridge.PieceBoard_new
import Arimaa.Gen.Bridge.PieceBoard_piece_board
import Arimaa.Gen.Bridge.PlayPhase_initial
import Arimaa.Gen.Bridge.Zobrist_from_piece_board
import Arimaa.Gen.Bridge.convert_char_to_piece

namespace Arimaa.Gen.Bridge
open Arimaa Arimaa.Gen Arimaa.Rt

set_option maxHeartbeats 1000000 in
theorem bridge_GameState_from_str : @Rs.GameState_from_str = @RsBase.GameState_from_str := by
  funext a0
  rs_ladder [Rs.GameState_from_str, RsBase.GameState_from_str, bridge_GameState_new, bridge_PieceBoard_new, bridge_PieceBoard_piece_board, bridge_PlayPhase_initial, bridge_Zobrist_from_piece_board, bridge_convert_char_to_piece] [RsBase.GameState_new, RsBase.PieceBoard_new, RsBase.PieceBoard_piece_board, RsBase.PlayPhase_initial, RsBase.Zobrist_from_piece_board, RsBase.convert_char_to_piece] (skip) [Rs.GameState_from_str, RsBase.GameState_from_str, Rs.GameState_new, Rs.PieceBoardState_bits_by_piece_type, Rs.PieceBoardState_bits_for_piece, Rs.PieceBoard_new, Rs.PieceBoard_piece_board, Rs.PlayPhase_initial, Rs.Zobrist_from_piece_board, Rs.convert_char_to_piece, Rs.piece_value, RsBase.GameState_new, RsBase.PieceBoardState_bits_by_piece_type, RsBase.PieceBoardState_bits_for_piece, RsBase.PieceBoard_new, RsBase.PieceBoard_piece_board, RsBase.PlayPhase_initial, RsBase.Zobrist_from_piece_board, RsBase.convert_char_to_piece, RsBase.piece_value]

end Arimaa.Gen.Bridge
