import Arimaa.Lemmas.ListStack

/-!
# C20 — arbitrarily long games do not exhaust the stack

Statements about the frame-stack model of the history list (`Impl/ListStack.lean`).  The *depth* of an
operation is the maximal number of frames on the model's call stack while it runs
(`maxHeight fuel c`, for any `fuel` within which the operation returns).

Limits, stated once: one model frame stands for the few real frames involved in releasing one link;
frame *sizes*, inlining and tail-call elimination are compiler behaviour which the model cannot
exhibit.  The theorems bound (or show unbounded) the *number* of nested activations; the check
measures the real stack use of the real `List<T>` separately and compares its growth with the model's
`depth` (constant vs. linear).  `derive(Debug)` on the list is recursive too and is not one of the
property's operations.
-/

namespace Arimaa.Props
open Arimaa.ListStack

/-- **C20, defect form (F7).**  With the compiler-generated drop glue (no `impl Drop for List`) the
depth of `drop` is unbounded: for every bound `B` there is a capture-free history — `n = B + 1` turns,
each `let l' = l.append(h); drop(l)`, which leaves the uniquely owned `n`-node chain `ownedChain n`
(see `C20_history_heap`) — whose final `drop` returns (in the model, where the stack is unlimited)
after reaching more than `B` nested frames. -/
theorem C20_glue_unbounded : ∀ B : Nat, ∃ n fuel,
    finished (run fuel (dropCfg .glue (ownedChain n) (ownedHead n))) ∧
    B < maxHeight fuel (dropCfg .glue (ownedChain n) (ownedHead n)) := by
  intro B
  obtain ⟨hh, h', hr⟩ := glue_drop_chain (ownedNodes_unique _ (B + 1) (ownedChain_getElem? (B + 1))) [] []
  refine ⟨B + 1, 2 * (B + 1) + 1, congrArg Cfg.stack hr, ?_⟩
  calc B < B + 1 + 1 + ([] : List Frame).length := by omega
    _ = _ := hh.symm
    _ ≤ _ := height_le_maxHeight _ _ _ (by omega)

/-- The heap of `C20_glue_unbounded` is the one the model's own operations build: from the `n`-turn
heap, `append` (7 steps) followed by `drop` of the previous handle (4 steps) gives the `n+1`-turn heap. -/
theorem C20_history_heap (n : Nat) :
    (run 4 (dropCfg .loopIntoInner (run 7 (opCfg (ownedChain n) (.append (ownedHead n) n))).heap (ownedHead n))).heap
      = ownedChain (n + 1) :=
  ownedChain_succ_eq n

/-- **C20, repaired form.**  With the `Arc::into_inner` loop, on *every* heap (any length, any sharing of
tails, even ill-formed ones) and for every handle, `drop` returns — after at most `3·|heap| + 3` steps —
and never has more than 2 frames on the stack: the loop frame and one leaf call.  The loop stops at the
first node whose count stays positive. -/
theorem C20_loop_bounded (h : Heap) (l : Link) :
    (∃ K, K ≤ 3 * h.length + 3 ∧ finished (run K (dropCfg .loopIntoInner h l))) ∧
    ∀ fuel, maxHeight fuel (dropCfg .loopIntoInner h l) ≤ 2 :=
  ⟨loop_drop_terminates (h.length + 1) h l [] (Nat.lt_succ_of_le (ones_le_length h)),
    fun fuel => shape_maxHeight_le fuel _ (shape_dropFrame l)⟩

def threadStart : Link ⊕ ListOp → List Frame
  | .inl l => [dropFrame .loopIntoInner l]
  | .inr o => [opFrame o]

/-- **C20, repaired form, concurrent.**  Any number of threads, each performing `drop` (loop variant) or
any other list operation on a shared heap, under every schedule: no thread ever has more than 2 frames.
(The bound holds from every heap, so it holds for every *sequence* of operations per thread as well:
apply the theorem again at the heap reached.)  This is why the repair uses `Arc::into_inner`; compare
`C20_try_unwrap_race`. -/
theorem C20_loop_bounded_concurrent (h : Heap) (work : List (Link ⊕ ListOp)) (sched : List Nat) (t : Nat) :
    cheight (crun ⟨h, work.map threadStart⟩ sched) t ≤ 2 := by
  refine shape_cheight_le _ t (shape_crun sched t _ fun st hst => ?_)
  obtain ⟨w, _, rfl⟩ := Option.map_eq_some_iff.1 ((List.getElem?_map ..).symm.trans hst)
  cases w with
  | inl l => exact shape_dropFrame l
  | inr o => exact shape_opFrame o

/-- **C20, tie to the source.**  The variant selected from the generated `Gen.dropImpls` is the
`Arc::into_inner` loop.  Removing `impl Drop for List` from `linked_list.rs` (or turning it into a
`try_unwrap` loop, or any body of another shape) changes `Gen/Types.lean` and breaks this theorem. -/
theorem C20_current_variant : currentVariant = .loopIntoInner := by decide

/-- `drop` as the crate has it: depth at most 2, on every heap, for every handle. -/
theorem C20_current_drop_bounded (h : Heap) (l : Link) (fuel : Nat) :
    maxHeight fuel (dropCfg currentVariant h l) ≤ 2 := by
  rw [C20_current_variant]; exact (C20_loop_bounded h l).2 fuel

/-- **C20, other operations.**  `new`, `append`, `clone`, `len` and `iter().filter().count()` have depth at
most 2 on every heap; the four straight-line ones return within 7 steps on every heap, and the count
(iteration is a loop, not a recursion) returns within `2·|heap| + 3` steps on every heap whose `next`
pointers point to older nodes (all heaps built by `append`). -/
theorem C20_ops_constant_depth (h : Heap) (o : ListOp) :
    (∀ fuel, maxHeight fuel (opCfg h o) ≤ 2) ∧
    ((∀ l t, o ≠ .iterCount l t) → finished (run 7 (opCfg h o))) ∧
    (∀ l t, o = .iterCount l t → Ordered h → (∀ j, l = some j → j < h.length) →
      ∃ K, K ≤ 2 * h.length + 3 ∧ finished (run K (opCfg h o))) := by
  refine ⟨fun fuel => shape_maxHeight_le fuel _ (shape_opFrame o), straight_ops_terminate h o, ?_⟩
  rintro l t rfl ho hl
  obtain ⟨K, hK, hfin⟩ := iter_terminates h ho t h.length l 0 [] hl
  exact ⟨K, by omega, hfin⟩

/-- **C20, why not `try_unwrap`.**  With a `try_unwrap` loop the depth is unbounded under concurrency: for
every `B` there is a list (`n` nodes owned only through its head node, the head node held by exactly two
handles, count 2), whose two handles are dropped by two threads, and a schedule in which both
`try_unwrap` calls fail and the second plain `Arc::drop` then recurses through the whole tail: thread 1
reaches more than `B` frames. -/
theorem C20_try_unwrap_race : ∀ B : Nat, ∃ (h : Heap) (id : NodeId) (node : Node) (sched : List Nat),
    h[id]? = some node ∧ node.rc = 2 ∧
    B < cheight (crun ⟨h, [[dropFrame .loopTryUnwrap (some id)], [dropFrame .loopTryUnwrap (some id)]]⟩ sched) 1 := by
  intro B
  let node : Node := { elem := B, next := ownedHead B, len := B + 1, rc := 2 }
  have hlen := length_ownedChain B
  have hn : (ownedChain B ++ [node])[B]? = some node := by
    simp [hlen]
  have hc : UniqueChain (ownedChain B ++ [node]) node.next B :=
    ownedNodes_unique _ B fun i hi =>
      (List.getElem?_append_left (by omega)).trans (ownedChain_getElem? B i hi)
  refine ⟨ownedChain B ++ [node], B, node, [0, 1, 0, 1, 0, 1] ++ List.replicate B 1, hn, rfl, ?_⟩
  rw [try_unwrap_race _ B node B hn rfl (ownedHead_lt B) hc]
  omega

example :
    maxHeight 40 (dropCfg .glue (ownedChain 6) (ownedHead 6)) = 7 ∧
    maxHeight 40 (dropCfg .loopIntoInner (ownedChain 6) (ownedHead 6)) = 2 ∧
    finished (run 40 (dropCfg .glue (ownedChain 6) (ownedHead 6))) ∧
    finished (run 40 (dropCfg .loopIntoInner (ownedChain 6) (ownedHead 6))) ∧
    (run 40 (dropCfg .glue (ownedChain 6) (ownedHead 6))).heap = (ownedChain 6).map ({ · with rc := 0 }) ∧
    (run 40 (dropCfg .loopIntoInner (ownedChain 6) (ownedHead 6))).heap = (ownedChain 6).map ({ · with rc := 0 }) := by
  decide +kernel

/-- two lists sharing a tail (`0 ← 1 ← 2` and `0 ← 1 ← 3`, node 1 has count 2) -/
def sharedHeap : Heap :=
  [{ elem := 10, next := none, len := 1, rc := 1 }, { elem := 11, next := some 0, len := 2, rc := 2 },
   { elem := 12, next := some 1, len := 3, rc := 1 }, { elem := 13, next := some 1, len := 3, rc := 1 }]

/-- dropping the first list frees node 2 only, decrements node 1, and stops; depth 2 -/
example :
    (run 20 (dropCfg .loopIntoInner sharedHeap (some 2))).heap =
      [{ elem := 10, next := none, len := 1, rc := 1 }, { elem := 11, next := some 0, len := 2, rc := 1 },
       { elem := 12, next := some 1, len := 3, rc := 0 }, { elem := 13, next := some 1, len := 3, rc := 1 }] ∧
    finished (run 20 (dropCfg .loopIntoInner sharedHeap (some 2))) ∧
    maxHeight 20 (dropCfg .loopIntoInner sharedHeap (some 2)) = 2 ∧
    -- all three variants leave the same heap when run by a single thread
    (run 20 (dropCfg .glue sharedHeap (some 2))).heap = (run 20 (dropCfg .loopIntoInner sharedHeap (some 2))).heap ∧
    (run 20 (dropCfg .loopTryUnwrap sharedHeap (some 2))).heap = (run 20 (dropCfg .loopIntoInner sharedHeap (some 2))).heap := by
  decide +kernel

/-- the other operations compute what `linked_list.rs` computes: `append` allocates node 4 on top of
node 3 with `len = 4` and bumps node 3's count; `len` reads 3; counting the element 11 from node 3 gives 1 -/
example :
    (run 7 (opCfg sharedHeap (.append (some 3) 14))).heap =
      [{ elem := 10, next := none, len := 1, rc := 1 }, { elem := 11, next := some 0, len := 2, rc := 2 },
       { elem := 12, next := some 1, len := 3, rc := 1 }, { elem := 13, next := some 1, len := 3, rc := 2 },
       { elem := 14, next := some 3, len := 4, rc := 1 }] ∧
    (run 7 (opCfg sharedHeap (.append (some 3) 14))).out = [4, 3] ∧
    (run 7 (opCfg sharedHeap (.len (some 3)))).out = [3] ∧
    (run 20 (opCfg sharedHeap (.iterCount (some 3) 11))).out = [1] ∧
    finished (run 20 (opCfg sharedHeap (.iterCount (some 3) 11))) ∧
    maxHeight 20 (opCfg sharedHeap (.iterCount (some 3) 11)) = 2 ∧
    maxHeight 20 (opCfg sharedHeap (.append (some 3) 14)) = 2 := by
  decide +kernel

/-- the race of `C20_try_unwrap_race` for a 5-node tail: thread 1 reaches 8 frames; with `into_inner`
the same schedule stays at 2 and still frees everything exactly once -/
example :
    let h : Heap := ownedChain 5 ++ [{ elem := 5, next := some 4, len := 6, rc := 2 }]
    let sched := [0, 1, 0, 1, 0, 1, 1, 1, 1, 1, 1]
    cheight (crun ⟨h, [[dropFrame .loopTryUnwrap (some 5)], [dropFrame .loopTryUnwrap (some 5)]]⟩ sched) 1 = 8 ∧
    cheight (crun ⟨h, [[dropFrame .loopIntoInner (some 5)], [dropFrame .loopIntoInner (some 5)]]⟩ sched) 1 ≤ 2 ∧
    (crun ⟨h, [[dropFrame .loopIntoInner (some 5)], [dropFrame .loopIntoInner (some 5)]]⟩
      (sched ++ List.replicate 20 1)).heap = h.map ({ · with rc := 0 }) := by
  decide +kernel

/-- the selection function distinguishes the three source shapes -/
example :
    variantOf [] = .glue ∧ variantOf [("List", "loopTryUnwrap")] = .loopTryUnwrap ∧
    variantOf [("List", "other")] = .glue ∧ variantOf [("Iter", "loopIntoInner")] = .glue := by
  decide

/-- `Ordered`, the hypothesis of `C20_ops_constant_depth` on the heap, holds for the long histories -/
example : Ordered (ownedChain 1000) :=
  ordered_ownedChain 1000

end Arimaa.Props
