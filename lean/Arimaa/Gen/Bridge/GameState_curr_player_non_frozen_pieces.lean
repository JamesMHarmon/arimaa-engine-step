-- GENERATED by /verif/tools/gen.py -- do not edit.  Bridge from the current text of `GameState::curr_player_non_frozen_pieces` to the baseline text.
import Arimaa.Gen.Rs
import Arimaa.Gen.RsBase
import Arimaa.Gen.BridgeLadder
import Arimaa.Gen.Bridge.GameState_opponent_piece_mask
import Arimaa.Gen.Bridge.GameState_threatened_pieces
import Arimaa.Gen.Bridge.supported_pieces

namespace Arimaa.Gen.Bridge
open Arimaa Arimaa.Gen Arimaa.Rt

set_option maxHeartbeats 1000000 in
theorem bridge_GameState_curr_player_non_frozen_pieces : @Rs.GameState_curr_player_non_frozen_pieces = @RsBase.GameState_curr_player_non_frozen_pieces := by
  funext a0 a1
  rs_ladder [Rs.GameState_curr_player_non_frozen_pieces, RsBase.GameState_curr_player_non_frozen_pieces, bridge_GameState_opponent_piece_mask, bridge_GameState_threatened_pieces, bridge_supported_pieces] [RsBase.GameState_opponent_piece_mask, RsBase.GameState_threatened_pieces, RsBase.supported_pieces] (skip) [Rs.GameState_curr_player_non_frozen_pieces, RsBase.GameState_curr_player_non_frozen_pieces, Rs.GameState_opponent_piece_mask, Rs.GameState_threatened_pieces, Rs.influenced_squares, Rs.supported_pieces, RsBase.GameState_opponent_piece_mask, RsBase.GameState_threatened_pieces, RsBase.influenced_squares, RsBase.supported_pieces]

end Arimaa.Gen.Bridge
