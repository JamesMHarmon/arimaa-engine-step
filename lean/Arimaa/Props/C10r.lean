import Arimaa.Props.C10
import Arimaa.Lemmas.PanicSites
import Arimaa.Lemmas.RsAgreeStep
import Arimaa.Lemmas.RsAgreeShow
import Arimaa.Gen.Bridge.PieceBoardState_bits_by_piece_type
import Arimaa.Gen.Bridge.PieceBoardState_bits_for_piece
import Arimaa.Gen.Bridge.PieceBoardState_piece_type_at_square
import Arimaa.Gen.Bridge.PieceBoardState_player_piece_mask

/-!
C10 for the regenerated code (`Gen/Rs.lean`, written from the Rust text on every run).  `C10_code_agrees` lists, as one
obligation, the agreements with the hand model of the functions C10 speaks of, so that a change of the Rust text that
alters behaviour breaks an obligation here without a test having to find the input; a corollary whose hypothesis names
a list the code returned also cites `Code.rule_only` / `Code.offered`.  (written by tools/mkrprops.py)
-/
namespace Arimaa
open GameState Arimaa.Gen.Rs Arimaa.Rt Arimaa.Gen.Bridge Spec

/-- the statement of `RsAgree.value_of_ok` under this property's name; cite that one -/
theorem C10_value_of_ok {α : Type} {x : Res α} {p : Bool} {v w : α} (h : x = Res.guard p v) (hx : x = .ok w) :
    p = false ∧ w = v :=
  RsAgree.value_of_ok h hx

/-- the agreement theorems C10 rests on, about the CURRENT functions, as one obligation -/
theorem C10_code_agrees :
    (∀ (s : GameState) (a : Action), GameState_take_action s a = Res.guard (s.takeActionPanics a) (s.takeAction a)) ∧
    (∀ (b : Board) (p : Piece) (p1 : Bool), PieceBoardState_bits_for_piece b p p1 = b.bitsForPiece p p1) ∧
    (∀ (b : Board) (p1 : Bool), PieceBoardState_player_piece_mask b p1 = b.playerPieceMask p1) ∧
    (∀ (b : Board) (p : Piece), PieceBoardState_bits_by_piece_type b p = b.bitsByPieceType p) ∧
    (∀ (b : Board) (sq : Nat), PieceBoardState_piece_type_at_square b sq = Res.guard (b.pieceTypeAtSquarePanics sq) (b.pieceTypeAtSquare sq)) ∧
    (∀ (s : GameState) (f : List Char), GameState_fmt s f = .ok (f ++ showState s)) :=
  ⟨Code.take_action,
   bridge_PieceBoardState_bits_for_piece ▸ RsAgree.bits_for_piece,
   bridge_PieceBoardState_player_piece_mask ▸ RsAgree.player_piece_mask,
   bridge_PieceBoardState_bits_by_piece_type ▸ RsAgree.bits_by_piece_type,
   bridge_PieceBoardState_piece_type_at_square ▸ RsAgree.piece_type_at_square,
   Code.fmt⟩

/-- **C10 for the code as it is now**: on a well-formed board the regenerated views (`bits_for_piece`,
`player_piece_mask`, `bits_by_piece_type`, `piece_type_at_square`) all describe the one abstract position -/
theorem C10_code_views_agree (b : Board) (hw : WF b) (k : Nat) (hk : k < 64) :
    (∀ p g, bit (PieceBoardState_bits_for_piece b p g) k = (absBoard b k == some ⟨g, toSpec p⟩)) ∧
    (∀ g, bit (PieceBoardState_player_piece_mask b g) k = ownedBy (absBoard b) g k) ∧
    (∀ p, bit (PieceBoardState_bits_by_piece_type b p) k = (typeAt b k == some p)) ∧
    PieceBoardState_piece_type_at_square b k = .ok (typeAt b k) := by
  obtain ⟨h1, h2, h3, _, h5, _⟩ := C10_views_agree b hw k hk
  simp only [bridge_PieceBoardState_bits_for_piece, bridge_PieceBoardState_player_piece_mask,
    bridge_PieceBoardState_bits_by_piece_type, bridge_PieceBoardState_piece_type_at_square,
    RsAgree.bits_for_piece, RsAgree.player_piece_mask, RsAgree.bits_by_piece_type, RsAgree.piece_type_at_square]
  refine ⟨h1, h2, h3, ?_⟩
  rw [show b.pieceTypeAtSquarePanics k = false from sqBitPanics_false hk, h5]; rfl

end Arimaa
