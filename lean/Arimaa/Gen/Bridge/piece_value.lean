-- GENERATED by /verif/tools/gen.py -- do not edit.  Bridge from the current text of `piece_value` to the baseline text.
import Arimaa.Gen.Rs
import Arimaa.Gen.RsBase
import Arimaa.Gen.BridgeLadder

namespace Arimaa.Gen.Bridge
open Arimaa Arimaa.Gen Arimaa.Rt

set_option maxHeartbeats 1000000 in
theorem bridge_piece_value : @Rs.piece_value = @RsBase.piece_value := by
  funext a0 a1 a2
  rs_ladder [Rs.piece_value, RsBase.piece_value] [] (cases a1 <;> cases a2) [Rs.piece_value, RsBase.piece_value]

end Arimaa.Gen.Bridge
