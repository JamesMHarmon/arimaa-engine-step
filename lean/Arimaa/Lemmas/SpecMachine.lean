import Arimaa.Lemmas.SpecRules
import Arimaa.Spec.Machine

/-! Lemmas about the turn machine of `Spec/Machine.lean` alone. -/
namespace Arimaa

namespace Spec.State

theorem enabled_move_iff (t : State) (i : Nat) (d : Spec.Dir) :
    t.enabled (.move i d) = true ↔ i < 64 ∧ enabledMove t.board t.gold t.step t.pend i d = true := by
  simp only [enabled, Bool.and_eq_true, decide_eq_true_eq]

theorem next_mid (t : State) (i : Nat) (d : Spec.Dir) (h : t.step < 3) :
    t.next (.move i d) = ⟨applyStep t.board i d, t.gold, t.step + 1, nextPending t.board t.gold t.pend i d⟩ := by
  simp only [next, h, if_true]

theorem next_last (t : State) (i : Nat) (d : Spec.Dir) (h : ¬ t.step < 3) :
    t.next (.move i d) = ⟨applyStep t.board i d, !t.gold, 0, .none⟩ := by
  simp only [next, h, if_false]

theorem next_board (t : State) (i : Nat) (d : Spec.Dir) : (t.next (.move i d)).board = applyStep t.board i d := by
  by_cases h : t.step < 3
  · rw [next_mid t i d h]
  · rw [next_last t i d h]

theorem next_hashable (t : State) (a : Act) (he : t.enabled a = true) : (t.next a).pend.Hashable := by
  cases a with
  | pass => trivial
  | move i d =>
    by_cases h : t.step < 3
    · rw [next_mid t i d h]
      exact nextPending_hashable _ _ _ _ _ _ ((t.enabled_move_iff i d).1 he).2
    · rw [next_last t i d h]; trivial

/-- while a push is pending every enabled action is its completion, which leaves nothing pending -/
theorem next_pend_of_push (t : State) (q : Nat) (v : Spec.Piece) (hp : t.pend = .push q v) (a : Act)
    (he : t.enabled a = true) : (t.next a).pend = .none := by
  cases a with
  | pass => rfl
  | move i d =>
    by_cases h : t.step < 3
    · have hpe := ((t.enabled_move_iff i d).1 he).2
      rw [hp, enabledMove_push] at hpe
      rw [next_mid t i d h, hp]
      exact nextPending_pushEnd _ _ _ _ _ _ hpe
    · rw [next_last t i d h]

end Spec.State

end Arimaa
