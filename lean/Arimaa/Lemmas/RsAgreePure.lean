import Arimaa.Gen.RsBase
import Arimaa.Impl.Engine
import Arimaa.Gen.BridgeFacts
import Arimaa.Lemmas.Bits
import Arimaa.Lemmas.RsAgreeRes

/-!
Agreement of the baseline translation (`Gen/RsBase.lean`) with the hand-written model (`Impl/*.lean`) that all
property theorems are about: the functions that cannot panic.
-/
namespace Arimaa.RsAgree
open Arimaa.Gen Arimaa.Gen.RsBase

theorem bits_by_piece_type (b : Board) (p : Piece) :
    PieceBoardState_bits_by_piece_type b p = b.bitsByPieceType p := by
  cases p <;> rfl

theorem player_piece_mask (b : Board) (p1 : Bool) :
    PieceBoardState_player_piece_mask b p1 = b.playerPieceMask p1 := by
  cases p1 <;> rfl

theorem bits_for_piece (b : Board) (p : Piece) (p1 : Bool) :
    PieceBoardState_bits_for_piece b p p1 = b.bitsForPiece p p1 := by
  simp only [PieceBoardState_bits_for_piece, Board.bitsForPiece, bits_by_piece_type, Board.playerPieceMask,
    Bool.cond_eq_ite]

theorem animal_is_on_trap_eq (b : Board) : animal_is_on_trap b = animalIsOnTrap b := rfl

theorem supported_pieces_eq (x : BB) : supported_pieces x = supportedPieces x := rfl

theorem both_player_supported_pieces_eq (b : Board) :
    both_player_supported_pieces b = bothPlayerSupportedPieces b := rfl

theorem both_player_unsupported_piece_bits_eq (b : Board) :
    both_player_unsupported_piece_bits b = bothPlayerUnsupportedPieceBits b := rfl

theorem trapped_piece_bits (b : Board) : PieceBoardState_trapped_piece_bits b = b.trappedPieceBits := by
  simp only [PieceBoardState_trapped_piece_bits, Board.trappedPieceBits, Bool.cond_eq_ite, animal_is_on_trap_eq,
    both_player_unsupported_piece_bits_eq]

theorem piece_type_at_bit_eq (bit : BB) (b : Board) : piece_type_at_bit bit b = pieceTypeAtBit bit b := by
  unfold piece_type_at_bit pieceTypeAtBit
  simp only [pieceTypeAtBitChain, pieceTypeAtBitDefault, List.find?, Board.typeBits]
  -- along the chain: the first test that succeeds decides both sides
  cases (b.rabbits &&& bit != 0)
  case true => rfl
  cases (b.elephants &&& bit != 0)
  case true => rfl
  cases (b.camels &&& bit != 0)
  case true => rfl
  cases (b.horses &&& bit != 0)
  case true => rfl
  cases (b.dogs &&& bit != 0) <;> rfl

theorem piece_board_new (p1 e m h d c r : BB) : PieceBoard_new p1 e m h d c r = Board.new p1 e m h d c r := rfl

theorem piece_board_initial : PieceBoard_initial = Board.empty := rfl

theorem shift_in_direction_eq (x : BB) (d : Dir) : shift_in_direction x d = shiftInDirection d x := by
  cases d <;> rfl

theorem shift_pieces_in_direction_eq (x : BB) (d : Dir) :
    shift_pieces_in_direction x d = shiftPiecesInDirection d x := by
  cases d <;> rfl

theorem shift_pieces_in_opp_direction_eq (x : BB) (d : Dir) :
    shift_pieces_in_opp_direction x d = shiftPiecesInOppDirection d x := by
  cases d <;> rfl

theorem shift_piece_in_direction_eq (x src : BB) (d : Dir) :
    shift_piece_in_direction x src d = shiftPieceInDirection x src d := by
  simp only [shift_piece_in_direction, shiftPieceInDirection, shift_in_direction_eq]

theorem remove_trapped_pieces (b : Board) :
    PieceBoard_remove_trapped_pieces b = (b.removeTrappedPieces.2, b.removeTrappedPieces.1) := by
  simp only [PieceBoard_remove_trapped_pieces, Board.removeTrappedPieces, trapped_piece_bits]
  cases (b.trappedPieceBits != 0) <;> simp

theorem as_play_phase (s : GameState) : GameState_as_play_phase s = s.playPhase? := by
  unfold GameState_as_play_phase GameState.playPhase?
  cases s.phase <;> rfl

theorem play_phase_step (pp : PlayPhase) : PlayPhase_step pp = pp.step := rfl

theorem play_phase_initial (h : BB) (hist : List BB) : PlayPhase_initial h hist = PlayPhase.initial h hist := rfl

theorem is_must_complete_push (p : PPS) : PushPullState_is_must_complete_push p = p.isMustCompletePush := by
  cases p <;> rfl

theorem can_push (p : PPS) : PushPullState_can_push p = p.canPush := by
  cases p <;> rfl

theorem as_possible_pull (p : PPS) : PushPullState_as_possible_pull p =
    match p with
    | .possiblePull sq x => some (sq, x)
    | _ => none := by
  cases p <;> rfl

theorem is_their_piece (s : GameState) (bit : BB) (b : Board) :
    GameState_is_their_piece s bit b = s.isTheirPiece bit b := rfl

theorem game_state_piece_board (s : GameState) : GameState_piece_board s = s.board := rfl

theorem is_p1_turn_to_move (s : GameState) : GameState_is_p1_turn_to_move s = s.p1Turn := rfl

theorem move_number (s : GameState) : GameState_move_number s = s.moveNo := rfl

theorem is_play_phase (s : GameState) : GameState_is_play_phase s = s.isPlay := by
  unfold GameState_is_play_phase GameState.isPlay GameState.playPhase?
  cases s.phase <;> rfl

theorem game_state_initial : GameState_initial = GameState.initial := rfl

theorem game_state_eq (a b : GameState) : GameState_eq a b = (a.hash == b.hash) := rfl

/-- `impl Hash for GameState` (the hasher is the list of words written to it): exactly the board-state hash -/
theorem game_state_hash (s : GameState) (st : List BB) : GameState_hash s st = st ++ [s.hash] := rfl

theorem zobrist_board_state_hash (h : BB) : Zobrist_board_state_hash h = h := rfl

theorem hash_history_contains_hash_twice_eq (hist : List BB) (h : BB) :
    hash_history_contains_hash_twice hist h = GameState.histContainsTwice hist h := by
  simp only [hash_history_contains_hash_twice, GameState.histContainsTwice, ble_eq_decide]

theorem lesser_pieces (s : GameState) (p : Piece) (b : Board) :
    GameState_lesser_pieces s p b = GameState.lesserPieces p b := by
  cases p <;> simp [GameState_lesser_pieces, GameState.lesserPieces, lesserPiecesFields, List.foldl, Board.typeBits]

theorem opponent_piece_mask (s : GameState) (b : Board) :
    GameState_opponent_piece_mask s b = s.opponentPieceMask b := by
  simp only [GameState_opponent_piece_mask, GameState.opponentPieceMask, Bool.cond_eq_ite]

theorem curr_player_piece_mask (s : GameState) (b : Board) :
    GameState_curr_player_piece_mask s b = s.currPlayerPieceMask b := by
  simp only [GameState_curr_player_piece_mask, GameState.currPlayerPieceMask, Bool.cond_eq_ite]

theorem influenced_squares_eq (x : BB) : influenced_squares x = influencedSquares x := rfl

theorem threatened_pieces (s : GameState) (pred prey : BB) (b : Board) :
    GameState_threatened_pieces s pred prey b = GameState.threatenedPieces pred prey b := rfl

theorem curr_player_non_frozen_pieces (s : GameState) (b : Board) :
    GameState_curr_player_non_frozen_pieces s b = s.currPlayerNonFrozenPieces b := by
  simp only [GameState_curr_player_non_frozen_pieces, GameState.currPlayerNonFrozenPieces, opponent_piece_mask,
    threatened_pieces, supported_pieces_eq]

theorem can_move_in_direction_eq (d : Dir) (b : Board) : can_move_in_direction d b = canMoveInDirection d b := by
  simp only [can_move_in_direction, canMoveInDirection, shift_pieces_in_opp_direction_eq]

theorem invalid_rabbit_moves (s : GameState) (d : Dir) (b : Board) :
    GameState_invalid_rabbit_moves s d b = s.invalidRabbitMoves d b := by
  unfold GameState_invalid_rabbit_moves GameState.invalidRabbitMoves
  simp only [backwardDirP1, backwardDirP2]
  cases s.p1Turn <;> cases d <;> rfl

theorem rabbit_at_goal (s : GameState) (b : Board) : GameState_rabbit_at_goal s b = s.rabbitAtGoal b := by
  simp only [GameState_rabbit_at_goal, GameState.rabbitAtGoal, Bool.cond_eq_ite]

theorem lost_all_rabbits (s : GameState) (b : Board) : GameState_lost_all_rabbits s b = s.lostAllRabbits b := by
  simp only [GameState_lost_all_rabbits, GameState.lostAllRabbits, Bool.cond_eq_ite]

/-- the Rust test `x != 0` around the loop is redundant: `squaresOf 0 = []` -/
theorem map_squares_guard (x : BB) (d : Dir) (acc : List Action) :
    (bif (x != 0) then acc ++ (squaresOf x).map (fun s => Action.move s d) else acc) =
      acc ++ (squaresOf x).map (Action.move · d) := by
  cases h : (x != 0)
  · rw [show x = 0 by simpa using h, squaresOf_zero]
    simp
  · rfl

theorem extend_with_valid_curr_player_piece_moves (s : GameState) (acc : List Action) (b : Board) :
    GameState_extend_with_valid_curr_player_piece_moves s acc b = acc ++ s.ownMoves b := by
  simp only [GameState_extend_with_valid_curr_player_piece_moves, GameState.ownMoves, Dir_ALL, List.foldl,
    List.flatMap_cons, List.flatMap_nil, map_squares_guard, curr_player_non_frozen_pieces,
    can_move_in_direction_eq, invalid_rabbit_moves, List.append_assoc, List.append_nil]

theorem extend_with_push_piece_actions (s : GameState) (pp : PlayPhase) (acc : List Action) (b : Board)
    (h : s.phase = .play pp) :
    GameState_extend_with_push_piece_actions s acc b = acc ++ s.pushActions pp b := by
  simp only [GameState_extend_with_push_piece_actions, GameState.pushActions, as_play_phase,
    GameState.playPhase?, h, can_push, play_phase_step, curr_player_non_frozen_pieces, opponent_piece_mask,
    threatened_pieces, blt_eq_decide]
  cases hc : (pp.pps.canPush && decide (pp.step < 3))
  · simp
  · cases ht : (GameState.threatenedPieces (s.currPlayerNonFrozenPieces b) (s.opponentPieceMask b) b != 0)
    · simp
    · simp only [cond_true, if_true, Dir_ALL, List.foldl, List.flatMap_cons, List.flatMap_nil, map_squares_guard,
        can_move_in_direction_eq, List.append_assoc, List.append_nil]

theorem extend_with_push_piece_actions_place (s : GameState) (acc : List Action) (b : Board)
    (h : s.phase = .place) : GameState_extend_with_push_piece_actions s acc b = acc := by
  simp only [GameState_extend_with_push_piece_actions, as_play_phase, GameState.playPhase?, h]

theorem beq_zero_eq_popcount (x : BB) : (x == 0) = decide (popcount x < 1) := by
  rw [← blt_eq_decide, Gen.Bridge.popcount_blt_one]

theorem cond_append {α : Type} (c : Bool) (acc l : List α) :
    (bif c then acc ++ l else acc) = acc ++ (if c then l else []) := by
  cases c <;> simp

theorem foldl_append_flatMap {α β : Type} (l : List α) (g : α → List β) (init : List β) :
    l.foldl (fun acc a => acc ++ g a) init = init ++ l.flatMap g := by
  induction l generalizing init with
  | nil => simp
  | cons a l ih => simp [List.foldl_cons, List.flatMap_cons, ih, List.append_assoc]

theorem foldl_cond_append {α β : Type} (l : List α) (c : α → Bool) (g : α → β) (init : List β) :
    l.foldl (fun acc d => bif c d then acc ++ [g d] else acc) init =
      init ++ l.flatMap (fun d => if c d then [g d] else []) := by
  simp only [cond_append]
  exact foldl_append_flatMap l _ init

theorem filterMap_cons_toList {α β : Type} (f : α → Option β) (a : α) (l : List α) :
    List.filterMap f (a :: l) = (f a).toList ++ List.filterMap f l := by
  rw [List.filterMap_cons]
  cases f a <;> rfl

theorem toList_ite {α : Type} (c : Prop) [Decidable c] (b : α) :
    (if c then some b else none).toList = if c then [b] else [] := by
  split <;> rfl

theorem valid_placement (s : GameState) : GameState_valid_placement s = s.validPlacement := by
  -- both sides as one `++` of six optional singletons; the conditional appends first, while `acc` is still the same
  -- term in both branches
  simp only [GameState_valid_placement, cond_append, GameState.validPlacement, placementTable, filterMap_cons_toList,
    List.filterMap_nil, toList_ite]
  simp only [game_state_piece_board, curr_player_piece_mask, Board.typeBits, beq_zero_eq_popcount, blt_eq_decide,
    decide_eq_true_eq, List.append_assoc, List.nil_append, List.append_nil]
  rfl

theorem play_phase_new (h : BB) (hist : List BB) (prev : List Board) (pps : PPS) (t : Bool) :
    PlayPhase_new h hist prev pps t = { prev := prev, pps := pps, initHash := h, hist := hist, trapped := t } := rfl

theorem play_phase_getters (pp : PlayPhase) :
    PlayPhase_previous_piece_boards pp = pp.prev ∧ PlayPhase_push_pull_state pp = pp.pps ∧
      PlayPhase_piece_trapped_this_turn pp = pp.trapped ∧ PlayPhase_hash_history pp = pp.hist :=
  ⟨rfl, rfl, rfl, rfl⟩

theorem game_state_new (p1 : Bool) (n : Nat) (ph : Phase) (b : Board) (h : BB) :
    GameState_new p1 n ph b h = { p1Turn := p1, moveNo := n, phase := ph, board := b, hash := h } := rfl

end Arimaa.RsAgree
