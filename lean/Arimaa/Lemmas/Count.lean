import Arimaa.Lemmas.Abs
import Arimaa.Lemmas.ListLogic

/-!
Counting squares by content, on a board of the specification and on the planes of a board that represents it: the
pieces of one colour and type are the set bits of `typeBits t &&& playerPieceMask g` (what `valid_placement` counts).
-/
namespace Arimaa
open Spec

def countOn (P : Option Cell → Bool) (b : Spec.Board) : Nat := (List.range 64).countP (fun k => P (b k))

def cellCount (b : Spec.Board) (c : Cell) : Nat := ((List.range 64).filter (fun k => b k == some c)).length

theorem cellCount_eq_countOn (b : Spec.Board) (c : Cell) : cellCount b c = countOn (fun o => o == some c) b := by
  unfold cellCount countOn
  rw [List.countP_eq_length_filter]

theorem countOn_put (P : Option Cell → Bool) (hP : P none = false) (β : Spec.Board) (q : Nat) (hq : q < 64)
    (hfree : β q = none) (c : Option Cell) :
    countOn P (fun i => if i = q then c else β i) = countOn P β + (P c).toNat := by
  unfold countOn
  rw [countP_set (fun i => P (β i)) _ q (P c) (by rw [hfree, hP]) _ _ List.nodup_range,
    if_pos (List.mem_range.mpr hq)]
  intro i
  show P (if i = q then c else β i) = _
  by_cases e : i = q
  · rw [if_pos e, e, hfree, hP, decide_eq_true rfl]; rfl
  · rw [if_neg e, decide_eq_false e, Bool.false_and, Bool.or_false]

/-- C09's count of the mover's pieces and C10's material are the same number -/
theorem Rep.popcount_cell {b : Board} {β : Spec.Board} (h : Rep b β) (g : Bool) (t : Piece) :
    popcount (b.typeBits t &&& b.playerPieceMask g) = cellCount β ⟨g, toSpec t⟩ := by
  unfold popcount squaresOf cellCount
  exact congrArg List.length (List.filter_congr fun i _ => Rep.cell_bit h i g t)

theorem Rep.popcount_all {b : Board} {β : Spec.Board} (h : Rep b β) :
    popcount b.all = countOn Option.isSome β := by
  unfold popcount squaresOf countOn
  rw [← List.countP_eq_length_filter]
  exact List.countP_congr fun i _ => by
    show bit b.all i = true ↔ _
    rw [show bit b.all i = _ from h i .all]; cases β i <;> simp [Plane.shows]

end Arimaa
