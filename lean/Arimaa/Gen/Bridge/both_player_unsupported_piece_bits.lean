-- GENERATED by /verif/tools/gen.py -- do not edit.  Bridge from the current text of `both_player_unsupported_piece_bits` to the baseline text.
import Arimaa.Gen.Rs
import Arimaa.Gen.RsBase
import Arimaa.Gen.BridgeLadder
import Arimaa.Gen.Bridge.both_player_supported_pieces

namespace Arimaa.Gen.Bridge
open Arimaa Arimaa.Gen Arimaa.Rt

set_option maxHeartbeats 1000000 in
theorem bridge_both_player_unsupported_piece_bits : @Rs.both_player_unsupported_piece_bits = @RsBase.both_player_unsupported_piece_bits := by
  funext a0
  rs_ladder [Rs.both_player_unsupported_piece_bits, RsBase.both_player_unsupported_piece_bits, bridge_both_player_supported_pieces] [RsBase.both_player_supported_pieces] (skip) [Rs.both_player_unsupported_piece_bits, RsBase.both_player_unsupported_piece_bits, Rs.both_player_supported_pieces, Rs.supported_pieces, RsBase.both_player_supported_pieces, RsBase.supported_pieces]

end Arimaa.Gen.Bridge
