import Arimaa.Lemmas.Abs
-- Not used below: imported so that every property resting on these lemmas has the agreement of the
-- movement helpers with the translated source in its closure.
import Arimaa.Lemmas.GenAgreeMove
import Arimaa.Lemmas.SquareBits

/-!
`PieceBoard::move_piece` on an empty neighbour is `Spec.move` (`Rep.movePiece`).  `shiftInDirection_sqBit` is the only
place where the four directions are told apart.
-/
namespace Arimaa
open Gen Spec

theorem shiftInDirection_zero (d : Dir) : shiftInDirection d 0 = 0 := by
  cases d <;> simp [shiftInDirection, shiftUp, shiftDown, shiftLeft, shiftRight]

theorem shiftInDirection_sqBit (i j : Nat) (d : Dir) (hi : i < 64) (hn : nbr i (dirSpec d) = some j) :
    shiftInDirection d (sqBit i) = sqBit j := by
  rw [nbr_eq_some] at hn
  apply bb_ext; intro k hk
  rw [sqBit_bit_raw]
  cases d <;> simp only [shiftInDirection, dirSpec] at hn ⊢
  · rw [shiftUp_bit, sqBit_bit_raw]
    simp only [← Bool.decide_and]; exact decide_eq_decide.mpr (by omega)
  · rw [shiftRight_bit, sqBit_bit_raw]
    simp only [← Bool.decide_and]; exact decide_eq_decide.mpr (by omega)
  · rw [shiftDown_bit, sqBit_bit_raw]
    simp only [← Bool.decide_and]; exact decide_eq_decide.mpr (by omega)
  · rw [shiftLeft_bit, sqBit_bit_raw]
    simp only [← Bool.decide_and]; exact decide_eq_decide.mpr (by omega)

theorem shiftPiece_bit (x : BB) (sq : Nat) (d : Dir) (j k : Nat) (hsq : sq < 64)
    (hn : nbr sq (dirSpec d) = some j) :
    bit (shiftPieceInDirection x (sqBit sq) d) k =
      ((decide (k = j) && bit x sq) || (decide (k ≠ sq) && bit x k)) := by
  unfold shiftPieceInDirection
  rw [bit_or, bit_andNot, BitVec.and_comm x, sqBit_and_mask x sq hsq, sqBit_bit sq k hsq, Bool.and_comm (bit x k),
    decide_not]
  cases bit x sq
  · rw [if_neg Bool.false_ne_true, shiftInDirection_zero, bit_zero, Bool.and_false]
  · rw [if_pos rfl, shiftInDirection_sqBit sq j d hsq hn, sqBit_bit j k (nbr_lt sq j _ hsq hn), Bool.and_true]

theorem movePiece_plane (b : Board) (sq : Nat) (d : Dir) (π : Plane) :
    (b.movePiece sq d).plane π = shiftPieceInDirection (b.plane π) (sqBit sq) d := by
  cases π with
  | type f => cases f <;> rfl
  | _ => rfl

theorem Rep.movePiece {b : Board} {β : Spec.Board} (h : Rep b β) {sq j : Nat} {d : Dir} (hsq : sq < 64)
    (hn : nbr sq (dirSpec d) = some j) (he : β j = none) : Rep (b.movePiece sq d) (move β sq j) := by
  intro k π
  rw [movePiece_plane]
  unfold move
  rw [shiftPiece_bit _ sq d j k hsq hn, h sq π, h k π]
  by_cases ekj : k = j
  · subst ekj; simp [he, Plane.shows_none]
  · by_cases eks : k = sq
    · subst eks; simp [ekj, Plane.shows_none]
    · simp [ekj, eks]

end Arimaa
