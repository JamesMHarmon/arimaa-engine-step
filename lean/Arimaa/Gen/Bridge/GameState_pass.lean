-- GENERATED by /verif/tools/gen.py -- do not edit.  Bridge from the current text of `GameState::pass` to the baseline text.
import Arimaa.Gen.Rs
import Arimaa.Gen.RsBase
import Arimaa.Gen.BridgeLadder
import Arimaa.Gen.Bridge.GameState_current_step
import Arimaa.Gen.Bridge.GameState_unwrap_play_phase
import Arimaa.Gen.Bridge.PlayPhase_initial
import Arimaa.Gen.Bridge.Zobrist_pass

namespace Arimaa.Gen.Bridge
open Arimaa Arimaa.Gen Arimaa.Rt

set_option maxHeartbeats 1000000 in
theorem bridge_GameState_pass : @Rs.GameState_pass = @RsBase.GameState_pass := by
  funext a0
  rs_ladder [Rs.GameState_pass, RsBase.GameState_pass, bridge_GameState_current_step, bridge_GameState_unwrap_play_phase, bridge_PlayPhase_initial, bridge_Zobrist_pass] [RsBase.GameState_current_step, RsBase.GameState_unwrap_play_phase, RsBase.PlayPhase_initial, RsBase.Zobrist_pass] (skip) [Rs.GameState_pass, RsBase.GameState_pass, Rs.GameState_as_play_phase, Rs.GameState_current_step, Rs.GameState_unwrap_play_phase, Rs.PlayPhase_initial, Rs.PlayPhase_step, Rs.Zobrist_pass, RsBase.GameState_as_play_phase, RsBase.GameState_current_step, RsBase.GameState_unwrap_play_phase, RsBase.PlayPhase_initial, RsBase.PlayPhase_step, RsBase.Zobrist_pass]

end Arimaa.Gen.Bridge
