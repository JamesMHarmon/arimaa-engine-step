import Arimaa.Impl.Engine

/-!
`bit x i` is our own accessor (it keeps `simp` away from `getElem` normal forms); every bitboard operation of the
model gets one pointwise lemma, so that the refinement proofs reason about one square at a time.  Mask facts are
`decide` over `Fin 64` against the generated masks; then `squaresOf`, the lowest set bit (`tz64_spec`,
`squaresOf_lowest`) and `firstSetBit` of a masked board.  The last three lemmas read the generated piece tables
(`bitsByPieceType_eq`, `mem_Piece_ALL`); they stand here because the hash layer needs them without `Abs`.
-/
namespace Arimaa
open Gen

theorem bool_eq_decide {b : Bool} {p : Prop} [Decidable p] (h : b = true ↔ p) : b = decide p := by
  cases b <;> simp_all

def bit (x : BB) (i : Nat) : Bool := x.getLsbD i

theorem bit_ge (x : BB) (i : Nat) (h : 64 ≤ i) : bit x i = false := BitVec.getLsbD_of_ge _ _ h
theorem bit_lt_of_true {x : BB} {i : Nat} (h : bit x i = true) : i < 64 := by
  by_cases hi : i < 64
  · exact hi
  · rw [bit_ge x i (by omega)] at h; cases h
@[simp] theorem bit_zero (i : Nat) : bit (0 : BB) i = false := by simp [bit]
/-- the same for the spelling `simp` normalises `0` to -/
@[simp] theorem bit_zero' (i : Nat) : bit (0#64) i = false := by simp [bit]
theorem bit_and (x y : BB) (i : Nat) : bit (x &&& y) i = (bit x i && bit y i) := BitVec.getLsbD_and ..
theorem bit_or (x y : BB) (i : Nat) : bit (x ||| y) i = (bit x i || bit y i) := BitVec.getLsbD_or ..
theorem bit_xor (x y : BB) (i : Nat) : bit (x ^^^ y) i = (bit x i ^^ bit y i) := BitVec.getLsbD_xor ..
theorem bit_not (x : BB) (i : Nat) : bit (~~~x) i = (decide (i < 64) && !bit x i) := BitVec.getLsbD_not ..
theorem bit_andNot (x y : BB) (i : Nat) : bit (x &&& ~~~y) i = (bit x i && !bit y i) := by
  rw [bit_and, bit_not]
  cases h : bit x i
  · rfl
  · rw [decide_eq_true (bit_lt_of_true h)]; rfl
theorem bit_shr (x : BB) (n i : Nat) : bit (x >>> n) i = bit x (n + i) := BitVec.getLsbD_ushiftRight ..
theorem bit_shl (x : BB) (n i : Nat) :
    bit (x <<< n) i = (decide (i < 64) && !decide (i < n) && bit x (i - n)) :=
  BitVec.getLsbD_shiftLeft ..
theorem bb_ext (x y : BB) (h : ∀ i, i < 64 → bit x i = bit y i) : x = y :=
  BitVec.eq_of_getLsbD_eq (fun i hi => h i hi)

theorem bb_eq_zero_iff (x : BB) : x = 0 ↔ ∀ i, i < 64 → bit x i = false := by
  constructor
  · rintro rfl i _; simp
  · intro h; exact bb_ext _ _ (fun i hi => by rw [h i hi]; simp)

theorem bb_ne_zero_iff (x : BB) : x ≠ 0 ↔ ∃ i, i < 64 ∧ bit x i = true := by
  rw [Ne, bb_eq_zero_iff]
  constructor
  · intro h
    apply Classical.byContradiction
    intro hc
    apply h
    intro i hi
    cases hb : bit x i
    · rfl
    · exact absurd ⟨i, hi, hb⟩ hc
  · rintro ⟨i, hi, hb⟩ h
    rw [h i hi] at hb; cases hb

theorem ne_zero_eq_any (x : BB) (f : Nat → Bool) (h : ∀ i, i < 64 → bit x i = f i) :
    (x != 0) = (List.range 64).any f := by
  rw [Bool.eq_iff_iff, bne_iff_ne, bb_ne_zero_iff, List.any_eq_true]
  constructor
  · rintro ⟨i, hi, hb⟩
    exact ⟨i, List.mem_range.2 hi, by rw [← h i hi]; exact hb⟩
  · rintro ⟨i, hi, hb⟩
    have hi' := List.mem_range.1 hi
    exact ⟨i, hi', by rw [h i hi']; exact hb⟩

theorem eq_zero_eq_not_any (x : BB) (f : Nat → Bool) (h : ∀ i, i < 64 → bit x i = f i) :
    (x == 0) = !(List.range 64).any f := by
  rw [← ne_zero_eq_any x f h]
  simp [bne]

theorem top_bit (i : Nat) (h : i < 64) : bit TOP_ROW_MASK i = decide (i < 8) :=
  (by decide +kernel : ∀ j : Fin 64, bit TOP_ROW_MASK j.1 = decide (j.1 < 8)) ⟨i, h⟩
theorem bottom_bit (i : Nat) (h : i < 64) : bit BOTTOM_ROW_MASK i = decide (56 ≤ i) :=
  (by decide +kernel : ∀ j : Fin 64, bit BOTTOM_ROW_MASK j.1 = decide (56 ≤ j.1)) ⟨i, h⟩
theorem left_bit (i : Nat) (h : i < 64) : bit LEFT_COLUMN_MASK i = decide (i % 8 = 0) :=
  (by decide +kernel : ∀ j : Fin 64, bit LEFT_COLUMN_MASK j.1 = decide (j.1 % 8 = 0)) ⟨i, h⟩
theorem right_bit (i : Nat) (h : i < 64) : bit RIGHT_COLUMN_MASK i = decide (i % 8 = 7) :=
  (by decide +kernel : ∀ j : Fin 64, bit RIGHT_COLUMN_MASK j.1 = decide (j.1 % 8 = 7)) ⟨i, h⟩

/-- trap squares c6 f6 c3 f3 -/
def isTrapIdx (i : Nat) : Bool := i == 18 || i == 21 || i == 42 || i == 45

theorem trap_bit (i : Nat) (h : i < 64) : bit TRAP_MASK i = isTrapIdx i :=
  (by decide +kernel : ∀ j : Fin 64, bit TRAP_MASK j.1 = isTrapIdx j.1) ⟨i, h⟩
theorem p1_objective_bit (i : Nat) (h : i < 64) : bit P1_OBJECTIVE_MASK i = decide (i < 8) :=
  (by decide +kernel : ∀ j : Fin 64, bit P1_OBJECTIVE_MASK j.1 = decide (j.1 < 8)) ⟨i, h⟩
theorem p2_objective_bit (i : Nat) (h : i < 64) : bit P2_OBJECTIVE_MASK i = decide (56 ≤ i) :=
  (by decide +kernel : ∀ j : Fin 64, bit P2_OBJECTIVE_MASK j.1 = decide (56 ≤ j.1)) ⟨i, h⟩
theorem p1_placement_bit (i : Nat) (h : i < 64) : bit P1_PLACEMENT_MASK i = decide (48 ≤ i) :=
  (by decide +kernel : ∀ j : Fin 64, bit P1_PLACEMENT_MASK j.1 = decide (48 ≤ j.1)) ⟨i, h⟩
theorem p2_placement_bit (i : Nat) (h : i < 64) : bit P2_PLACEMENT_MASK i = decide (i < 16) :=
  (by decide +kernel : ∀ j : Fin 64, bit P2_PLACEMENT_MASK j.1 = decide (j.1 < 16)) ⟨i, h⟩
theorem last_p1_placement_bit (i : Nat) (h : i < 64) : bit LAST_P1_PLACEMENT_MASK i = decide (i = 63) :=
  (by decide +kernel : ∀ j : Fin 64, bit LAST_P1_PLACEMENT_MASK j.1 = decide (j.1 = 63)) ⟨i, h⟩
theorem last_p2_placement_bit (i : Nat) (h : i < 64) : bit LAST_P2_PLACEMENT_MASK i = decide (i = 15) :=
  (by decide +kernel : ∀ j : Fin 64, bit LAST_P2_PLACEMENT_MASK j.1 = decide (j.1 = 15)) ⟨i, h⟩

theorem board_width_eq : BOARD_WIDTH = 8 := by decide
theorem board_height_eq : BOARD_HEIGHT = 8 := by decide

theorem shiftUp_bit (x : BB) (i : Nat) : bit (shiftUp x) i = bit x (i + 8) := by
  unfold shiftUp; rw [board_width_eq, bit_shr, Nat.add_comm]
theorem shiftDown_bit (x : BB) (i : Nat) :
    bit (shiftDown x) i = (decide (i < 64) && decide (8 ≤ i) && bit x (i - 8)) := by
  unfold shiftDown
  rw [board_width_eq, bit_shl, ← decide_not]
  simp only [Nat.not_lt]
theorem shiftLeft_bit (x : BB) (i : Nat) : bit (shiftLeft x) i = bit x (i + 1) := by
  unfold shiftLeft; rw [bit_shr, Nat.add_comm]
theorem shiftRight_bit (x : BB) (i : Nat) :
    bit (shiftRight x) i = (decide (i < 64) && decide (1 ≤ i) && bit x (i - 1)) := by
  unfold shiftRight
  rw [bit_shl, ← decide_not]
  simp only [Nat.not_lt]

theorem bit_masked (x m : BB) (j : Nat) (c : Bool) (h : j < 64 → (!bit m j) = c) :
    bit (x &&& ~~~m) j = (c && bit x j) := by
  rw [bit_andNot]
  cases hb : bit x j
  · rw [Bool.and_false]; rfl
  · rw [h (bit_lt_of_true hb), Bool.and_true]; rfl

/- `up_bit` and `left_shift_bit` hold for every `i`; they take `i < 64` so that the four masked shifts are called
alike. -/

theorem up_bit (x : BB) (i : Nat) (_h : i < 64) :
    bit (shiftPiecesUp x) i = (decide (i + 8 < 64) && bit x (i + 8)) := by
  unfold shiftPiecesUp
  rw [shiftUp_bit, bit_masked x _ _ (decide (i + 8 < 64))]
  intro hj
  rw [top_bit _ hj, ← decide_not]
  exact decide_eq_decide.mpr (by omega)

theorem down_bit (x : BB) (i : Nat) (h : i < 64) :
    bit (shiftPiecesDown x) i = (decide (8 ≤ i) && bit x (i - 8)) := by
  unfold shiftPiecesDown
  rw [shiftDown_bit, decide_eq_true h, Bool.true_and, bit_masked x _ _ true, Bool.true_and]
  intro hj
  rw [bottom_bit _ hj, ← decide_not]
  exact decide_eq_true (by omega)

theorem left_shift_bit (x : BB) (i : Nat) (_h : i < 64) :
    bit (shiftPiecesLeft x) i = (decide (i % 8 ≠ 7) && bit x (i + 1)) := by
  unfold shiftPiecesLeft
  rw [shiftLeft_bit, bit_masked x _ _ (decide (i % 8 ≠ 7))]
  intro hj
  rw [left_bit _ hj, ← decide_not]
  exact decide_eq_decide.mpr (by omega)

theorem right_shift_bit (x : BB) (i : Nat) (h : i < 64) :
    bit (shiftPiecesRight x) i = (decide (i % 8 ≠ 0) && bit x (i - 1)) := by
  unfold shiftPiecesRight
  rw [shiftRight_bit, decide_eq_true h, Bool.true_and,
    bit_masked x _ _ (decide ((i - 1) % 8 ≠ 7)) fun hj => by rw [right_bit _ hj, decide_not],
    ← Bool.and_assoc, ← Bool.decide_and]
  exact congrArg (· && _) (decide_eq_decide.mpr (by omega))

theorem sqBit_bit_raw (s i : Nat) : bit (sqBit s) i = (decide (i < 64) && decide (i = s)) := by
  unfold sqBit
  rw [bit_shl]
  unfold bit
  rw [BitVec.getLsbD_one]
  simp only [← decide_not, ← Bool.decide_and]
  exact decide_eq_decide.mpr (by omega)

theorem foldl_or_bit {α} (g : α → BB) (l : List α) (z : BB) (j : Nat) :
    bit (l.foldl (fun acc f => acc ||| g f) z) j = (bit z j || l.any fun f => bit (g f) j) := by
  induction l generalizing z with
  | nil => simp
  | cons a l ih => rw [List.foldl_cons, ih, bit_or, List.any_cons, Bool.or_assoc]

theorem mem_squaresOf (x : BB) (i : Nat) : i ∈ squaresOf x ↔ i < 64 ∧ bit x i = true := by
  simp [squaresOf, bit]

theorem squaresOf_nodup (x : BB) : (squaresOf x).Nodup := (List.nodup_range).filter _

theorem squaresOf_sorted (x : BB) : (squaresOf x).Pairwise (· < ·) := by
  unfold squaresOf
  exact (List.pairwise_lt_range).filter _

/-- `squaresOf x` is the one increasing list of the set bits of `x` -/
theorem eq_squaresOf (x : BB) (l : List Nat) (hs : l.Pairwise (· < ·)) (hm : ∀ i, i ∈ l ↔ i < 64 ∧ bit x i = true) :
    l = squaresOf x :=
  List.Perm.eq_of_pairwise (le := (· < ·)) (fun _ _ _ _ hab hba => absurd hab (Nat.lt_asymm hba)) hs (squaresOf_sorted x)
    ((List.perm_ext_iff_of_nodup (hs.imp Nat.ne_of_lt) (squaresOf_nodup x)).mpr fun i => by rw [hm, mem_squaresOf])

theorem squaresOf_zero : squaresOf 0 = [] := by
  apply List.eq_nil_iff_forall_not_mem.mpr
  intro i hi
  rw [mem_squaresOf] at hi
  simp at hi

theorem tz64_spec (x : BB) (hx : x ≠ 0) :
    tz64 x < 64 ∧ bit x (tz64 x) = true ∧ ∀ j, j < tz64 x → bit x j = false := by
  unfold tz64
  cases hf : (List.range 64).find? (fun i => x.getLsbD i) with
  | none =>
    obtain ⟨i, hi, hb⟩ := (bb_ne_zero_iff x).mp hx
    have := List.find?_range_eq_none.mp hf i hi
    rw [show x.getLsbD i = true from hb] at this
    cases this
  | some k =>
    obtain ⟨hk, hmem, hlt⟩ := List.find?_range_eq_some.mp hf
    exact ⟨List.mem_range.mp hmem, hk, fun j hj => by simpa [bit] using hlt j hj⟩

theorem tz64_zero : tz64 0 = 64 := by decide +kernel

theorem tz64_ge_64_iff (x : BB) : tz64 x ≥ 64 ↔ x = 0 := by
  constructor
  · intro h
    by_cases hx : x = 0
    · exact hx
    · have := (tz64_spec x hx).1
      omega
  · intro h; subst h; rw [tz64_zero]; exact Nat.le_refl _

theorem tz64_eq_of_lowest (x : BB) (j : Nat) (hj : j < 64) (hb : bit x j = true)
    (hlow : ∀ i, i < j → bit x i = false) : tz64 x = j := by
  have hx : x ≠ 0 := (bb_ne_zero_iff x).mpr ⟨j, hj, hb⟩
  obtain ⟨_, ht, hl⟩ := tz64_spec x hx
  rcases Nat.lt_trichotomy (tz64 x) j with h | h | h
  · rw [hlow _ h] at ht; cases ht
  · exact h
  · rw [hl _ h] at hb; cases hb

theorem squaresOf_lowest (b : BB) (hb : b ≠ 0) :
    squaresOf b = tz64 b :: squaresOf (b ^^^ (1#64 <<< tz64 b)) := by
  obtain ⟨hlt, hbit, hlow⟩ := tz64_spec b hb
  -- the bits of the rest are those of `b` other than the lowest, so they lie above it
  have hrest : ∀ i, i ∈ squaresOf (b ^^^ sqBit (tz64 b)) ↔ (i < 64 ∧ bit b i = true) ∧ i ≠ tz64 b := fun i => by
    rw [mem_squaresOf, bit_xor, sqBit_bit_raw]
    by_cases e : i = tz64 b
    · subst e; simp [hbit, hlt]
    · simp [e]
  refine (eq_squaresOf b _ (List.pairwise_cons.mpr ⟨fun a ha => ?_, squaresOf_sorted _⟩) fun i => ?_).symm
  · obtain ⟨⟨_, hba⟩, hne⟩ := (hrest a).mp ha
    rcases Nat.lt_trichotomy a (tz64 b) with h | h | h
    · rw [hlow a h] at hba; cases hba
    · exact absurd h hne
    · exact h
  · rw [List.mem_cons, show (1#64 <<< tz64 b) = sqBit (tz64 b) from rfl, hrest]
    by_cases e : i = tz64 b
    · subst e; simp [hbit, hlt]
    · simp [e]

theorem firstSetBit_eq_sqBit (x : BB) (j : Nat) (hj : j < 64) (hb : bit x j = true)
    (hlow : ∀ i, i < j → bit x i = false) : firstSetBit x = sqBit j := by
  unfold firstSetBit sqBit; rw [tz64_eq_of_lowest x j hj hb hlow]

theorem firstSetBit_free (occ m : BB) (q : Nat) (hq : q < 64) (hm : bit m q = true)
    (hfree : bit occ q = false) (hlow : ∀ i, i < q → bit m i = true → bit occ i = true) :
    firstSetBit (~~~occ &&& m) = sqBit q := by
  apply firstSetBit_eq_sqBit _ _ hq
  · rw [bit_and, bit_not, hfree, hm, decide_eq_true hq]; rfl
  · intro i hi
    rw [bit_and, bit_not]
    cases hmi : bit m i
    · exact Bool.and_false _
    · rw [hlow i hi hmi, decide_eq_true (Nat.lt_trans hi hq)]; rfl

theorem bitsByPieceTypeField_id (p : Piece) : bitsByPieceTypeField p = p := by cases p <;> rfl

theorem bitsByPieceType_eq (b : Board) (p : Piece) : b.bitsByPieceType p = b.typeBits p := by
  unfold Board.bitsByPieceType; rw [bitsByPieceTypeField_id]

theorem mem_Piece_ALL (g : Piece) : g ∈ Piece_ALL := by cases g <;> decide

end Arimaa
