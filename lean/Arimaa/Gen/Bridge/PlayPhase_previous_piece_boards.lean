-- GENERATED by /verif/tools/gen.py -- do not edit.  Bridge from the current text of `PlayPhase::previous_piece_boards` to the baseline text.
import Arimaa.Gen.Rs
import Arimaa.Gen.RsBase
import Arimaa.Gen.BridgeLadder

namespace Arimaa.Gen.Bridge
open Arimaa Arimaa.Gen Arimaa.Rt

set_option maxHeartbeats 1000000 in
theorem bridge_PlayPhase_previous_piece_boards : @Rs.PlayPhase_previous_piece_boards = @RsBase.PlayPhase_previous_piece_boards := by
  funext a0
  rs_ladder [Rs.PlayPhase_previous_piece_boards, RsBase.PlayPhase_previous_piece_boards] [] (skip) [Rs.PlayPhase_previous_piece_boards, RsBase.PlayPhase_previous_piece_boards]

end Arimaa.Gen.Bridge
