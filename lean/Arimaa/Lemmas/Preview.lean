import Arimaa.Lemmas.Capture
import Arimaa.Lemmas.Types

/-!
`trapped_animal_for_action` (C13: it reports the lowest-numbered unsupported trap square of the moved board,
`preview_lowest`; with no such square before the step there is at most one, `preview_exact`) and the board
views (C10) against the abstraction.
-/
namespace Arimaa
open Spec GameState

theorem bitsForPiece_bit (b : Board) (hw : WF b) (p : Piece) (g : Bool) (k : Nat) :
    bit (b.bitsForPiece p g) k = (absBoard b k == some ⟨g, toSpec p⟩) := by
  unfold Board.bitsForPiece
  rw [bitsByPieceType_eq]
  exact hw.rep.cell_bit k g p

theorem trappedAnimal_none (s : GameState) (i : Nat) (d : Dir)
    (h : (s.board.movePiece i d).trappedPieceBits = 0) : s.trappedAnimalForAction (.move i d) = none := by
  simp [trappedAnimalForAction, h]

theorem trappedAnimal_lowest (s : GameState) (i : Nat) (d : Dir) (hw : WF (s.board.movePiece i d))
    (h0 : (s.board.movePiece i d).trappedPieceBits ≠ 0) (t : Piece)
    (ht : typeAt (s.board.movePiece i d) (tz64 (s.board.movePiece i d).trappedPieceBits) = some t) :
    s.trappedAnimalForAction (.move i d) =
      some (tz64 (s.board.movePiece i d).trappedPieceBits, t,
        bit (s.board.movePiece i d).p1 (tz64 (s.board.movePiece i d).trappedPieceBits)) := by
  obtain ⟨hk, _, _⟩ := tz64_spec _ h0
  generalize hkk : tz64 (s.board.movePiece i d).trappedPieceBits = k at *
  have hg : (absBoard (s.board.movePiece i d) k == some ⟨true, toSpec t⟩) = bit (s.board.movePiece i d).p1 k := by
    rw [absBoard_apply, ht]
    cases bit (s.board.movePiece i d).p1 k <;> simp
  have hne : ((s.board.movePiece i d).trappedPieceBits != 0) = true := bne_iff_ne.mpr h0
  simp only [trappedAnimalForAction, hne, if_true, sqOfBit, if_neg h0, hkk, pieceTypeAtSquare_eq _ hw k hk, ht,
    Option.getD_some, and_sqBit_ne_zero _ k hk, bitsForPiece_bit _ hw t true k, hg]

theorem preview_lowest (s : GameState) (hw : WF s.board)
    (i : Nat) (d : Dir) (j : Nat) (hi : i < 64) (hn : nbr i (dirSpec d) = some j)
    (hej : absBoard s.board j = none) :
    let m := move (absBoard s.board) i j
    (s.trappedAnimalForAction (.move i d) = none ↔ ∀ k, k < 64 → hanging m k = false) ∧
    (∀ k p g, s.trappedAnimalForAction (.move i d) = some (k, p, g) →
      k < 64 ∧ m k = some ⟨g, toSpec p⟩ ∧ hanging m k = true ∧ ∀ k', k' < k → hanging m k' = false) := by
  have hm := hw.rep.movePiece hi hn hej
  have hwm := hm.wf
  have habs := hm.abs
  have hbit := hm.trapped_bit
  by_cases h0 : (s.board.movePiece i d).trappedPieceBits = 0
  · rw [trappedAnimal_none s i d h0]
    refine ⟨iff_of_true rfl fun k hk => ?_, fun k p g h => nomatch h⟩
    rw [← hbit k hk, h0, bit_zero]
  · obtain ⟨hk, hb, hlow⟩ := tz64_spec _ h0
    rw [hbit _ hk] at hb
    obtain ⟨c, hc, _, _⟩ := (hanging_iff _ _).mp hb
    rw [← habs] at hc
    obtain ⟨t, htt, hts, hg⟩ := typeAt_of_abs _ _ c hc
    rw [trappedAnimal_lowest s i d hwm h0 t htt]
    refine ⟨iff_of_false (fun h => nomatch h) fun h => ?_, fun k' p g h => ?_⟩
    · rw [h _ hk] at hb; cases hb
    · cases h
      exact ⟨hk, by rw [← habs, hc, ← hg, hts], hb, fun k' hk' => by
        rw [← hbit k' (by omega)]; exact hlow k' hk'⟩

theorem preview_exact (s : GameState) (hw : WF s.board) (hno : NoHanging (absBoard s.board))
    (i : Nat) (d : Dir) (j : Nat) (hi : i < 64) (hn : nbr i (dirSpec d) = some j)
    (hej : absBoard s.board j = none) :
    let m := move (absBoard s.board) i j
    (s.trappedAnimalForAction (.move i d) = none ↔ ∀ k, k < 64 → hanging m k = false) ∧
    (∀ k p g, s.trappedAnimalForAction (.move i d) = some (k, p, g) →
      k < 64 ∧ m k = some ⟨g, toSpec p⟩ ∧ hanging m k = true ∧
        ∀ k', k' < 64 → hanging m k' = true → k' = k) := by
  obtain ⟨h1, h2⟩ := preview_lowest s hw i d j hi hn hej
  refine ⟨h1, fun k p g h => ?_⟩
  obtain ⟨hk, hm, hh, _⟩ := h2 k p g h
  exact ⟨hk, hm, hh, fun k' hk' hh' => at_most_one_hanging _ hno i j _ hi hn hej k' k hk' hk hh' hh⟩

end Arimaa
