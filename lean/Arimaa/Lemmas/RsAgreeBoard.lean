import Arimaa.Lemmas.RsAgreePure
import Arimaa.Lemmas.RsAgreeSquareCore
import Arimaa.Impl.Panics

/-!
Agreement of the baseline translation with the hand model for functions that can panic, each in the shape
`RsBase.f args = Res.guard (fPanics args) (f args)`: the translated function panics exactly where the guard of
`Impl/Panics.lean` says, and otherwise returns what the total function returns.  Through the bridges this ties both
the total model and the panic model to the text of engine.rs / zobrist.rs.

`RsAgreeSquareCore` is imported although nothing here cites it: the engine translation renders calls into `square.rs` /
`bit_manip.rs` as `Rt.asBitBoard`, `sqOfBit`, `Rt.firstSetBit`, `squaresOf`, and that module proves the rendering right
about the CURRENT text of those files, so it has to be in the closure of every engine property.
-/
namespace Arimaa.RsAgree
open Arimaa.Gen Arimaa.Gen.RsBase Arimaa.Rt

theorem asBitBoard_eq (sq : Nat) : Rt.asBitBoard sq = Res.guard (sqBitPanics sq) (sqBit sq) :=
  if_panic_ok _ _

theorem firstSetBit_eq (x : BB) : Rt.firstSetBit x = Res.guard (firstSetBitPanics x) (firstSetBit x) :=
  if_panic_ok _ _

theorem addUsize_eq (a b : Nat) : Rt.addUsize a b = Res.guard (usizeAddPanics a b) (a + b) :=
  if_panic_ok _ _

theorem placement_bit (b : Board) :
    PieceBoardState_placement_bit b = Res.guard b.placementBitPanics b.placementBit := by
  simp only [PieceBoardState_placement_bit, firstSetBit_eq, Board.placementBitPanics, Board.placementBit,
    Bool.cond_eq_ite]

theorem piece_type_at_square (b : Board) (sq : Nat) :
    PieceBoardState_piece_type_at_square b sq =
      Res.guard (b.pieceTypeAtSquarePanics sq) (b.pieceTypeAtSquare sq) := by
  simp only [PieceBoardState_piece_type_at_square, asBitBoard_eq, bind_guard_ok, Board.pieceTypeAtSquarePanics,
    Board.pieceTypeAtSquare, piece_type_at_bit_eq, Bool.cond_eq_ite]

theorem board_move_piece (b : Board) (sq : Nat) (d : Dir) :
    PieceBoard_move_piece b sq d = Res.guard (b.movePiecePanics sq) (b.movePiece sq d) := by
  simp only [PieceBoard_move_piece, asBitBoard_eq, bind_guard_ok, Board.movePiecePanics, Board.movePiece,
    shift_piece_in_direction_eq]

theorem board_take_action_move (b : Board) (sq : Nat) (d : Dir) :
    PieceBoard_take_action b (.move sq d) = Res.guard (sqBitPanics sq) (b.takeMove sq d) := by
  simp only [PieceBoard_take_action, board_move_piece, Board.movePiecePanics, remove_trapped_pieces,
    bind_guard_ok, Board.takeMove]

theorem board_take_action (b : Board) (a : Action) :
    PieceBoard_take_action b a = Res.guard (b.takeActionPanics a)
      (match a with
       | .move sq d => b.takeMove sq d
       | _ => (b, false)) := by
  cases a with
  | move sq d => simpa [Board.takeActionPanics, Board.movePiecePanics] using board_take_action_move b sq d
  | place p => rfl
  | pass => rfl

theorem unwrap_play_phase (s : GameState) (pp : PlayPhase) (h : s.phase = .play pp) :
    GameState_unwrap_play_phase s = .ok pp := by
  simp [GameState_unwrap_play_phase, as_play_phase, GameState.playPhase?, h, Rt.unwrap]

theorem unwrap_play_phase_place (s : GameState) (h : s.phase = .place) :
    GameState_unwrap_play_phase s = .panic := by
  simp [GameState_unwrap_play_phase, as_play_phase, GameState.playPhase?, h, Rt.unwrap]

theorem current_step (s : GameState) : GameState_current_step s = Res.guard s.stepPanics s.step := by
  unfold GameState_current_step GameState.stepPanics GameState.unwrapPlayPhasePanics GameState.isPlay
    GameState.playPhase? GameState.step
  cases h : s.phase with
  | place => rw [unwrap_play_phase_place s h]; rfl
  | play pp => rw [unwrap_play_phase s pp h]; rfl

theorem current_step_play (s : GameState) (pp : PlayPhase) (hp : s.phase = .play pp) :
    GameState_current_step s = .ok pp.step := by
  simp [current_step, GameState.stepPanics, GameState.unwrapPlayPhasePanics, GameState.isPlay, GameState.playPhase?,
    GameState.step, hp]

theorem current_step_place (s : GameState) (hp : s.phase = .place) : GameState_current_step s = .panic := by
  simp [current_step, GameState.stepPanics, GameState.unwrapPlayPhasePanics, GameState.isPlay, GameState.playPhase?, hp]

theorem next_piece_boards_this_move (s : GameState) (pp : PlayPhase) (h : s.phase = .play pp) :
    GameState_next_piece_boards_this_move s = Res.guard (usizeAddPanics pp.step 1) (pp.prev ++ [s.board]) := by
  simp only [GameState_next_piece_boards_this_move, unwrap_play_phase s pp h, Res.bind_ok, addUsize_eq,
    play_phase_step, bind_guard_ok, List.nil_append]

theorem move_can_be_counted_as_pull (s : GameState) (pp : PlayPhase) (h : s.phase = .play pp)
    (bit : BB) (d : Dir) (b : Board) :
    GameState_move_can_be_counted_as_pull s bit d b =
      Res.guard (GameState.moveCanBeCountedAsPullPanics pp) (GameState.moveCanBeCountedAsPull pp bit d b) := by
  simp only [GameState_move_can_be_counted_as_pull, unwrap_play_phase s pp h, Res.bind_ok,
    GameState.moveCanBeCountedAsPullPanics, GameState.moveCanBeCountedAsPull]
  cases pp.pps with
  | none => rfl
  | mustCompletePush sq p => rfl
  | possiblePull sq p =>
    simp only [asBitBoard_eq, bind_guard_ok, shift_in_direction_eq, piece_type_at_bit_eq, Bool.cond_false_right,
      Bool.and_true]

theorem next_push_pull_state (s : GameState) (pp : PlayPhase) (h : s.phase = .play pp) (sq : Nat) (d : Dir) :
    GameState_next_push_pull_state s sq d =
      Res.guard (s.nextPushPullStatePanics pp sq) (s.nextPushPullState pp sq d) := by
  simp only [GameState_next_push_pull_state, asBitBoard_eq, unwrap_play_phase s pp h, Res.bind_ok,
    game_state_piece_board, is_their_piece, move_can_be_counted_as_pull s pp h, piece_type_at_bit_eq,
    is_must_complete_push, GameState.nextPushPullStatePanics, GameState.nextPushPullState, bind_guard_guard,
    bind_guard_ok, cond_guard_ok, Bool.cond_false_right]
  simp only [Bool.cond_eq_ite]

theorem tbl2_index (t : List (List BB)) (i j : Nat) :
    Res.bind (Rt.index t i) (fun row => Rt.index row j) = Res.guard (tbl2Panics t i j) (tbl2 t i j) := by
  simp only [index_eq t i [], index_eq _ j (0 : BB), bind_guard_guard]
  rfl

theorem piece_value_eq (sq : Nat) (p : Piece) (isP1 : Bool) :
    piece_value sq p isP1 = Res.guard (pieceValuePanics sq p isP1) (pieceValue sq p isP1) := by
  unfold piece_value
  dsimp only
  -- the row index is at most 5 + 6
  rw [Bool.cond_eq_ite, addUsize_ok (by cases p <;> cases isP1 <;> decide), Res.bind_ok, tbl2_index]
  cases p <;> rfl

theorem push_piece_value_eq (sq : Nat) (p : Piece) :
    push_piece_value sq p = Res.guard (pushPieceValuePanics sq p) (pushPieceValue sq p) := by
  cases p <;> simp only [push_piece_value, pushPieceValuePanics, pushPieceValue, pushValueIdx, Res.bind_ok,
    Res.bind_panic, Res.guard_true] <;> exact tbl2_index _ _ _

theorem pull_piece_value_eq (sq : Nat) (p : Piece) :
    pull_piece_value sq p = Res.guard (pullPieceValuePanics sq p) (pullPieceValue sq p) := by
  cases p <;> simp only [pull_piece_value, pullPieceValuePanics, pullPieceValue, pullValueIdx, Res.bind_ok,
    Res.bind_panic, Res.guard_true] <;> exact tbl2_index _ _ _

theorem step_values_index (step : Nat) :
    Rt.index Z_STEP_VALUES step = Res.guard (stepValuePanics step) (stepValueAt step) :=
  index_eq _ _ _

theorem step_value_eq (a b : Nat) : step_value a b = Res.guard (stepValue2Panics a b) (stepValue a b) := by
  simp only [step_value, step_values_index, stepValue2Panics, stepValue, bind_guard_guard, bind_guard_ok]

theorem zobrist_pass (h : BB) (step : Nat) :
    Zobrist_pass h step = Res.guard (zPassPanics step) (zPass h step) := by
  simp only [Zobrist_pass, step_values_index, zPassPanics, zPass, bind_guard_guard, bind_guard_ok]

theorem zobrist_exclude_step (h : BB) (step : Nat) :
    Zobrist_exclude_step h step = Res.guard (zExcludeStepPanics step) (zExcludeStep h step) := by
  simp only [Zobrist_exclude_step, step_values_index, zExcludeStepPanics, zExcludeStep, bind_guard_guard,
    bind_guard_ok]

theorem zobrist_with_pps (h : BB) (p : PPS) :
    Zobrist_board_state_hash_with_push_pull_state h p = Res.guard (zWithPPSPanics p) (zWithPPS h p) := by
  cases p with
  | none => rfl
  | possiblePull sq x =>
    simp only [Zobrist_board_state_hash_with_push_pull_state, pull_piece_value_eq, bind_guard_ok, zWithPPSPanics,
      zWithPPS]
  | mustCompletePush sq x =>
    simp only [Zobrist_board_state_hash_with_push_pull_state, push_piece_value_eq, bind_guard_ok, zWithPPSPanics,
      zWithPPS]

theorem zobrist_place_piece (h : BB) (p : Piece) (sq : Nat) (isP1 sw1 sw2 : Bool) :
    Zobrist_place_piece h p sq isP1 sw1 sw2 =
      Res.guard (zPlacePiecePanics p sq isP1 sw2) (zPlacePiece h p sq isP1 sw1 sw2) := by
  simp only [Zobrist_place_piece, piece_value_eq, step_values_index, zPlacePiecePanics, zPlacePiece,
    cond_guard_ok, bind_guard_guard, bind_guard_ok]
  simp only [Bool.cond_eq_ite]

end Arimaa.RsAgree
