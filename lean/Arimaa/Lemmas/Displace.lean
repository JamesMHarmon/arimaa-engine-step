import Arimaa.Lemmas.SpecCapture

/-!
`capture (move b i j)` is the board after the piece `c` on `i` has gone to the empty square `j`.  On a board without
unsupported trap pieces the pieces of the other colour are exactly where they were, because their supporters are of
their own colour; hence a piece `cx` of the other colour on a neighbour `x` of `i` keeps its friends, gains no enemy
neighbour when `j` is not next to `x`, and loses none when `c` is weaker than `cx`.
-/
namespace Arimaa.Spec

theorem displace_before (b : Spec.Board) (i j k : Nat) (c ck : Cell) (hi : b i = some c) (hj : b j = none)
    (h : capture (move b i j) k = some ck) : (k = j ∧ ck = c) ∨ (k ≠ i ∧ k ≠ j ∧ b k = some ck) := by
  have hij : i ≠ j := by intro e; rw [e, hj] at hi; cases hi
  have hm := (capture_some _ k ck h).1
  by_cases ekj : k = j
  · subst ekj
    rw [move_dst, hi] at hm
    exact Or.inl ⟨rfl, by cases hm; rfl⟩
  · by_cases eki : k = i
    · subst eki
      rw [move_src _ _ _ hij] at hm; cases hm
    · rw [move_other _ _ _ _ eki ekj] at hm
      exact Or.inr ⟨eki, ekj, hm⟩

theorem displace_survives (b : Spec.Board) (hb : NoHanging b) (i j k : Nat) (c ck : Cell)
    (hi : b i = some c) (hj : b j = none) (hck : b k = some ck) (eki : k ≠ i)
    (hsup : ∀ d, nbr k d = some i → c.gold ≠ ck.gold) : capture (move b i j) k = some ck := by
  have ekj : k ≠ j := by intro e; subst e; rw [hj] at hck; cases hck
  rw [capture_apply, move_other _ _ _ _ eki ekj, hck]
  cases hh : hanging (move b i j) k with
  | false => rfl
  | true =>
    obtain ⟨d, c', ck', hn, hi', hck', hg⟩ := hanging_move b hb i j k hj ekj hh
    rw [hi] at hi'; rw [hck] at hck'; cases hi'; cases hck'
    exact absurd hg (hsup d hn)

theorem displace_other_iff (b : Spec.Board) (hb : NoHanging b) (i j k : Nat) (c ck : Cell)
    (hi : b i = some c) (hj : b j = none) (hcol : ck.gold ≠ c.gold) :
    capture (move b i j) k = some ck ↔ b k = some ck := by
  constructor
  · intro h
    rcases displace_before b i j k c ck hi hj h with ⟨_, e⟩ | ⟨_, _, h3⟩
    · subst e; exact absurd rfl hcol
    · exact h3
  · intro hck
    refine displace_survives b hb i j k c ck hi hj hck ?_ (fun _ _ => Ne.symm hcol)
    intro e; subst e; rw [hi] at hck; cases hck; exact hcol rfl

theorem friend_displace (b : Spec.Board) (hb : NoHanging b) (i j x : Nat) (c cx : Cell)
    (hi : b i = some c) (hj : b j = none) (hcol : cx.gold ≠ c.gold) :
    hasFriend (capture (move b i j)) x cx.gold = hasFriend b x cx.gold := by
  rw [Bool.eq_iff_iff, hasFriend_iff, hasFriend_iff]
  have key : ∀ f (cf : Cell), cf.gold = cx.gold →
      (capture (move b i j) f = some cf ↔ b f = some cf) := fun f cf hg =>
    displace_other_iff b hb i j f c cf hi hj (by rw [hg]; exact hcol)
  constructor <;> rintro ⟨d, f, cf, hn, hbf, hg⟩
  · exact ⟨d, f, cf, hn, (key f cf hg).1 hbf, hg⟩
  · exact ⟨d, f, cf, hn, (key f cf hg).2 hbf, hg⟩

theorem displace_stronger_before (b : Spec.Board) (i j x : Nat) (c : Cell) (g : Bool) (s : Nat)
    (hi : b i = some c) (hj : b j = none) (hadj : ∀ d, nbr x d ≠ some j)
    (h : hasStrongerEnemy (capture (move b i j)) x g s = true) : hasStrongerEnemy b x g s = true := by
  rw [hasStrongerEnemy_iff] at h ⊢
  obtain ⟨d, k, ck, hn, hbk, hg, hst⟩ := h
  rcases displace_before b i j k c ck hi hj hbk with ⟨e, _⟩ | ⟨_, _, h3⟩
  · subst e; exact absurd hn (hadj d)
  · exact ⟨d, k, ck, hn, h3, hg, hst⟩

/-- a stronger enemy that lost its last supporter `c` would be next to `i` as well as next to `x` -/
theorem displace_stronger_kept (b : Spec.Board) (hb : NoHanging b) (i j x : Nat) (c cx : Cell) (dx : Spec.Dir)
    (hi : b i = some c) (hj : b j = none) (hnx : nbr x dx = some i)
    (hs : c.piece.strength < cx.piece.strength)
    (h : hasStrongerEnemy b x cx.gold cx.piece.strength = true) :
    hasStrongerEnemy (capture (move b i j)) x cx.gold cx.piece.strength = true := by
  rw [hasStrongerEnemy_iff] at h ⊢
  obtain ⟨d, k, ck, hn, hbk, hg, hst⟩ := h
  refine ⟨d, k, ck, hn, displace_survives b hb i j k c ck hi hj hbk ?_
    (fun d' hn' => (nbrs_not_adjacent x k i d dx d' hn hnx hn').elim), hg, hst⟩
  intro e; subst e; rw [hi] at hbk; cases hbk; omega

/-- a piece of the other colour that `j` is not next to stays, and stays unfrozen: no enemy arrives.
`pusher_displace` below is the case of `x` next to `i`: then `j` is not next to `x`, and `c` being
weaker no enemy that matters leaves either -/
theorem unfrozen_displace (b : Spec.Board) (hb : NoHanging b) (i j x : Nat) (c cx : Cell)
    (hi : b i = some c) (hj : b j = none) (hadj : ∀ d, nbr x d ≠ some j) (hcol : cx.gold ≠ c.gold)
    (hx : b x = some cx) (hfz : frozen b x = false) :
    capture (move b i j) x = some cx ∧ frozen (capture (move b i j)) x = false := by
  have h1 := (displace_other_iff b hb i j x c cx hi hj hcol).2 hx
  refine ⟨h1, ?_⟩
  rw [frozen_some _ _ _ hx] at hfz
  rw [frozen_some _ _ _ h1, friend_displace b hb i j x c cx hi hj hcol, Bool.eq_false_iff]
  intro h
  rw [Bool.and_eq_true] at h
  rw [h.1, displace_stronger_before b i j x c _ _ hi hj hadj h.2] at hfz
  cases hfz

theorem pusher_displace (b : Spec.Board) (hb : NoHanging b) (i j x : Nat) (c cx : Cell) (d dx : Spec.Dir)
    (hi : b i = some c) (hj : b j = none) (hn : nbr i d = some j) (hnx : nbr x dx = some i)
    (hcol : cx.gold ≠ c.gold) (hs : c.piece.strength < cx.piece.strength) (hx : b x = some cx) :
    capture (move b i j) x = some cx ∧ frozen (capture (move b i j)) x = frozen b x := by
  have hadj : ∀ d', nbr x d' ≠ some j := fun d' h => nbrs_not_adjacent x i j dx d' d hnx h hn
  have h1 := (displace_other_iff b hb i j x c cx hi hj hcol).2 hx
  refine ⟨h1, ?_⟩
  rw [frozen_some _ _ _ h1, frozen_some _ _ _ hx, friend_displace b hb i j x c cx hi hj hcol]
  congr 1
  rw [Bool.eq_iff_iff]
  exact ⟨displace_stronger_before b i j x c _ _ hi hj hadj, displace_stronger_kept b hb i j x c cx dx hi hj hnx hs⟩

end Arimaa.Spec
