import Arimaa.Gen.RsList
import Arimaa.Lemmas.RsAgreeRes

/-!
`Gen/RsList.lean` is regenerated from `src/linked_list.rs` on every run (tools/rslist.py).  Here: the abstraction
`toList` (newest element first, the order `iter()` yields), the invariant `WF` (the length cached in every node
is the number of nodes from there on), and for every function of the API its specification on lists.  This is
what justifies rendering a `List<T>` as a Lean list in the translation of `engine.rs` (`append` = cons, `len` =
length, `iter` = the list itself), with ONE difference: `append` computes `len() + 1` in checked `usize`
arithmetic, so it panics on a list of `usize::MAX` elements.

The proofs are `cases` on the link, `simp_all` with all definitions, then `omega`: written to survive
behaviour-preserving rewrites of the Rust file (`match` for the `Option` combinators, `head.is_none()` for
`len() == 0`).
Sharing, reference counts and `Drop` are not visible at value level: `Impl/ListStack.lean`, `Props/C18b`, `C20`.
-/

namespace Arimaa.RsAgree.ListAgree
open Arimaa.Rt Arimaa.Gen.RsList

variable {T : Type}

def toList : Link T → List T
  | .none => []
  | .some e nx _ => e :: toList nx

def WF : Link T → Prop
  | .none => True
  | .some _ nx len => len = (toList nx).length + 1 ∧ WF nx

section
attribute [local simp] List_new List_len List_head List_tail List_is_empty List_clone List_iter Iter_next
  toList WF Res.bind Rt.addUsize

theorem new_spec : toList (List_new : Link T) = [] ∧ WF (List_new : Link T) := by
  constructor <;> simp_all <;> omega

theorem len_spec (l : Link T) (h : WF l) : List_len l = (toList l).length := by
  cases l <;> simp_all <;> omega

theorem head_spec (l : Link T) : List_head l = (toList l).head? := by
  cases l <;> simp_all <;> omega

theorem tail_spec (l : Link T) : toList (List_tail l) = (toList l).tail ∧ (WF l → WF (List_tail l)) := by
  cases l <;> simp_all <;> omega

theorem is_empty_spec (l : Link T) (h : WF l) : List_is_empty l = (toList l).isEmpty := by
  cases l <;> simp_all <;> omega

theorem clone_spec (l : Link T) : toList (List_clone l) = toList l ∧ (WF l → WF (List_clone l)) := by
  cases l <;> simp_all <;> omega

theorem next_spec (l : Link T) :
    (Iter_next l).1 = (toList l).head? ∧ toList (Iter_next l).2 = (toList l).tail ∧ (WF l → WF (Iter_next l).2) := by
  cases l <;> simp_all <;> omega

theorem iter_toList (l : Link T) : toList (List_iter l) = toList l := by
  cases l <;> simp_all <;> omega

end

/-- the one panic site of the file, the checked `len() + 1`, fires exactly at the bound -/
theorem append_eq (l : Link T) (x : T) (h : WF l) :
    List_append l x =
      Res.guard (decide (usizeMax < (toList l).length + 1)) (.some x l ((toList l).length + 1)) := by
  have hl := len_spec l h
  -- the first alternative follows the text as it is; the second is a search that makes no use of its shape and survives
  -- a regeneration that, say, moves the checked addition into a `match` arm
  first
  | (rw [List_append, hl, Rt.addUsize, if_panic_ok, bind_guard_ok]; done)
  | (unfold Res.guard; split <;> rename_i hb <;> simp only [decide_eq_true_eq] at hb <;> cases l <;>
      simp_all [List_append, List_len, Rt.addUsize, Res.bind, toList, WF] <;>
      (try rw [if_neg (by omega)]) <;> (try rw [if_pos (by omega)]) <;>
      first | rfl | omega | (simp_all [usizeMax]; done) | (simp [usizeMax] at *; done))

theorem append_ok {l l' : Link T} {x : T} (h : WF l) (ha : List_append l x = .ok l') :
    (toList l).length + 1 ≤ usizeMax ∧ l' = .some x l ((toList l).length + 1) :=
  have := value_of_ok (append_eq l x h) ha
  ⟨Nat.not_lt.1 (of_decide_eq_false this.1), this.2⟩

theorem append_spec (l : Link T) (x : T) (h : WF l) (hb : (toList l).length + 1 ≤ usizeMax) :
    ∃ l', List_append l x = .ok l' ∧ toList l' = x :: toList l ∧ WF l' :=
  ⟨_, ok_of_guard (append_eq l x h) (decide_eq_false (Nat.not_lt.2 hb)), rfl, rfl, h⟩

theorem append_overflow (l : Link T) (x : T) (h : WF l) (hb : usizeMax < (toList l).length + 1) :
    List_append l x = .panic := by
  rw [append_eq l x h, decide_eq_true hb]; rfl

def drain : Nat → Link T → List T
  | 0, _ => []
  | fuel + 1, it => match Iter_next it with
    | (some x, it') => x :: drain fuel it'
    | (none, _) => []

theorem drain_spec (fuel : Nat) (it : Link T) (hf : (toList it).length ≤ fuel) : drain fuel it = toList it := by
  -- through `next_spec` and not by `cases it`, so that nothing here depends on the text of `Iter_next`
  induction fuel generalizing it with
  | zero =>
    have : toList it = [] := by
      cases h : toList it with
      | nil => rfl
      | cons a t => simp [h] at hf
    simp [drain, this]
  | succ n ih =>
    have hn := next_spec it
    cases hit : toList it with
    | nil =>
      have h1 : (Iter_next it).1 = none := by simpa [hit] using hn.1
      unfold drain
      rcases hnx : Iter_next it with ⟨a, b⟩
      simp [hnx] at h1
      simp [h1]
    | cons a t =>
      have h1 : (Iter_next it).1 = some a := by simpa [hit] using hn.1
      have h2 : toList (Iter_next it).2 = t := by simpa [hit] using hn.2.1
      unfold drain
      rcases hnx : Iter_next it with ⟨a', b⟩
      simp [hnx] at h1 h2
      subst h1
      have := ih b (by simp [h2, hit] at hf ⊢; omega)
      simp [this, h2]

theorem iter_spec (l : Link T) (fuel : Nat) (hf : (toList l).length ≤ fuel) :
    drain fuel (List_iter l) = toList l := by
  rw [drain_spec fuel (List_iter l) (by rw [iter_toList]; exact hf), iter_toList]

inductive Built : Link T → Prop
  | new : Built List_new
  | append {l l' : Link T} {x : T} : Built l → List_append l x = .ok l' → Built l'
  | tail {l : Link T} : Built l → Built (List_tail l)
  | clone {l : Link T} : Built l → Built (List_clone l)

theorem built_wf {l : Link T} (h : Built l) : WF l := by
  induction h with
  | new => exact new_spec.2
  | @append l l' x _ hap ih => rw [(append_ok ih hap).2]; exact ⟨rfl, ih⟩
  | tail _ ih => exact (tail_spec _).2 ih
  | clone _ ih => exact (clone_spec _).2 ih

theorem built_len {l : Link T} (h : Built l) : List_len l = (toList l).length := len_spec l (built_wf h)

theorem built_append {l : Link T} (h : Built l) (x : T) (hb : (toList l).length + 1 ≤ usizeMax) :
    ∃ l', List_append l x = .ok l' ∧ toList l' = x :: toList l ∧ Built l' :=
  let ⟨l', h1, h2, _⟩ := append_spec l x (built_wf h) hb
  ⟨l', h1, h2, .append h h1⟩

/-- the list API refines Lean lists, for every list the crate can hold -/
theorem list_api_refines {l : Link T} (h : Built l) :
    List_len l = (toList l).length ∧ List_head l = (toList l).head? ∧ toList (List_tail l) = (toList l).tail ∧
    List_is_empty l = (toList l).isEmpty ∧ toList (List_clone l) = toList l ∧
    (∀ fuel, (toList l).length ≤ fuel → drain fuel (List_iter l) = toList l) ∧
    (∀ x, (toList l).length + 1 ≤ usizeMax → ∃ l', List_append l x = .ok l' ∧ toList l' = x :: toList l ∧ Built l') := by
  have hw := built_wf h
  exact ⟨len_spec l hw, head_spec l, (tail_spec l).1, is_empty_spec l hw, (clone_spec l).1, iter_spec l, built_append h⟩

example : ∃ l : Link Nat, Built l ∧ toList l = [2, 1] := by
  obtain ⟨l1, h1, t1, w1⟩ := append_spec (List_new : Link Nat) 1 new_spec.2 (by simp [new_spec.1, usizeMax])
  obtain ⟨l2, h2, t2, _⟩ := append_spec l1 2 w1 (by simp [t1, new_spec.1, usizeMax])
  exact ⟨l2, Built.append (Built.append Built.new h1) h2, by simp [t2, t1, new_spec.1]⟩

end Arimaa.RsAgree.ListAgree
