-- GENERATED by /verif/tools/gen.py -- do not edit.  Bridge from the current text of `GameState::initial` to the baseline text.
import Arimaa.Gen.Rs
import Arimaa.Gen.RsBase
import Arimaa.Gen.BridgeLadder
import Arimaa.Gen.Bridge.PieceBoard_initial
import Arimaa.Gen.Bridge.Zobrist_initial

namespace Arimaa.Gen.Bridge
open Arimaa Arimaa.Gen Arimaa.Rt

set_option maxHeartbeats 1000000 in
theorem bridge_GameState_initial : @Rs.GameState_initial = @RsBase.GameState_initial := by
  rs_ladder [Rs.GameState_initial, RsBase.GameState_initial, bridge_PieceBoard_initial, bridge_Zobrist_initial] [RsBase.PieceBoard_initial, RsBase.Zobrist_initial] (skip) [Rs.GameState_initial, RsBase.GameState_initial, Rs.PieceBoard_initial, Rs.Zobrist_initial, RsBase.PieceBoard_initial, RsBase.Zobrist_initial]

end Arimaa.Gen.Bridge
