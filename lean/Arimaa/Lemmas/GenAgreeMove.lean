import Arimaa.Lemmas.GenAgree

/-! Agreement (see `GenAgree`) of the movement helpers. -/
namespace Arimaa
open Gen GameState

set_option linter.unusedSimpArgs false

theorem agree_can_move_in_direction (d : Dir) (b : Board) :
    Gen.Fn.can_move_in_direction d b = canMoveInDirection d b := by
  first
    | rfl
    | (simp only [Gen.Fn.can_move_in_direction, canMoveInDirection] <;> first | rfl | ac_rfl)
    | bitwise_agree

theorem agree_shift_piece_in_direction (x src : BB) (d : Dir) :
    Gen.Fn.shift_piece_in_direction x src d = shiftPieceInDirection x src d := by
  first
    | rfl
    | (simp only [Gen.Fn.shift_piece_in_direction, shiftPieceInDirection] <;> first | rfl | ac_rfl)
    | bitwise_agree

theorem agree_is_their_piece (s : GameState) (bit : BB) (b : Board) :
    Gen.Fn.is_their_piece s.p1Turn bit b = s.isTheirPiece bit b := by
  first
    | rfl
    | (simp only [Gen.Fn.is_their_piece, isTheirPiece] <;> first | rfl | ac_rfl)
    | bitwise_agree

/- `rfl` fails here: the translation compares `d` by `==` with the literal direction, the model by `=`
   with the generated `backwardDirP1` / `backwardDirP2`; the two agree case by case. -/
theorem agree_invalid_rabbit_moves (s : GameState) (d : Dir) (b : Board) :
    Gen.Fn.invalid_rabbit_moves s.p1Turn d b = s.invalidRabbitMoves d b := by
  unfold Gen.Fn.invalid_rabbit_moves invalidRabbitMoves backwardDirP1 backwardDirP2
  cases s.p1Turn <;> cases d <;> first | rfl | ac_rfl

end Arimaa
