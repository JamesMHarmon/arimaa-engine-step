-- GENERATED by /verif/tools/gen.py -- do not edit.  Bridge from the current text of `GameState::is_passing_like_action` to the baseline text.
import Arimaa.Gen.Rs
import Arimaa.Gen.RsBase
import Arimaa.Gen.BridgeLadder
import Arimaa.Gen.Bridge.GameState_is_p1_turn_to_move
import Arimaa.Gen.Bridge.GameState_unwrap_play_phase
import Arimaa.Gen.Bridge.PieceBoard_take_action
import Arimaa.Gen.Bridge.Zobrist_move_piece
import Arimaa.Gen.Bridge.hash_history_contains_hash_twice

namespace Arimaa.Gen.Bridge
open Arimaa Arimaa.Gen Arimaa.Rt

set_option maxHeartbeats 1000000 in
theorem bridge_GameState_is_passing_like_action : @Rs.GameState_is_passing_like_action = @RsBase.GameState_is_passing_like_action := by
  funext a0 a1
  rs_ladder [Rs.GameState_is_passing_like_action, RsBase.GameState_is_passing_like_action, bridge_GameState_is_p1_turn_to_move, bridge_GameState_unwrap_play_phase, bridge_PieceBoard_take_action, bridge_Zobrist_move_piece, bridge_hash_history_contains_hash_twice] [RsBase.GameState_is_p1_turn_to_move, RsBase.GameState_unwrap_play_phase, RsBase.PieceBoard_take_action, RsBase.Zobrist_move_piece, RsBase.hash_history_contains_hash_twice]

end Arimaa.Gen.Bridge
