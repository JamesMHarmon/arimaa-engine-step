import Arimaa.Lemmas.TurnsEquiv

/-!
C01 (specification part) — the step machine accepts exactly the prefixes of legal Arimaa turns.

Pure specification: relates L2 (`Spec.Rules`: the per-step machine with a pending push / possible
pull status, which the implementation is proved to refine in `Props/C01.lean`) to L3 (`Spec.Turns`:
the declarative turn of the property text — one to four steps built from single steps of unfrozen
friendly pieces onto empty neighbouring squares, rabbits never backward, and pushes and pulls of
strictly weaker neighbouring enemy pieces by an unfrozen stronger piece, every push or pull
completed inside the turn, no step serving both a push and a pull).

Hypothesis: `NoHanging b` — no piece stands on a trap square without a friendly neighbour at the
start of the turn.  It holds after every finished setup and after every step (C13); it is needed
because L3 reads the conditions of a push or pull on the board *before* its first step: a pusher
hanging on a trap would disappear at the displacement.
-/
namespace Arimaa
open Spec TurnLemmas

/-- **The machine accepts exactly the prefixes of legal turns; a turn may end exactly after a
complete legal turn.**  From a turn start `(b, gold, step 0, no obligation)` on a board without
unsupported trap pieces, for every non-empty list `ms` of at most four moves:
* every move of `ms` is enabled when its turn comes (`accepted`: board evolving by `applyStep`,
  status by `nextPending`, step counter by one) if and only if `ms` is a prefix of the steps of
  some legal turn;
* `ms` is accepted and the turn may end after it (`mayEnd`: `passEnabled`, i.e. no push is
  half-done) if and only if `ms` is exactly the steps of some legal turn.

The bound of four moves is the machine's own: its fourth step ends the turn (`State.next`), see
`C01_accepted_is_state_run`; `runTurn` itself does not count.

In particular the machine's greedy reading — an enemy step onto the square just vacated by a
stronger friendly piece is always booked as the end of a pull — rejects no legal labelling, and a
push is never started when it could not be completed inside the turn. -/
theorem C01_prefixes_of_turns (b : Spec.Board) (gold : Bool) (hb : NoHanging b) (ms : List Mv)
    (hne : ms ≠ []) (hlen : ms.length ≤ 4) :
    (accepted b gold ms = true ↔ ∃ us, legalTurn b gold us = true ∧ ms <+: steps us) ∧
    (mayEnd b gold ms = true ↔ ∃ us, legalTurn b gold us = true ∧ ms = steps us) := by
  have hpos : 1 ≤ ms.length := by
    cases ms with
    | nil => exact absurd rfl hne
    | cons _ _ => simp
  -- with `fin = false` the first equivalence, with `fin = true` the second
  have key : ∀ fin, acc fin gold b 0 .none ms = true ↔
      ∃ us, legalTurn b gold us = true ∧ ms <+: steps us ∧ (fin = true → ms = steps us) := by
    intro fin
    rw [acc_iff_units fin gold b hb 0 ms (by omega)]
    refine exists_congr fun us => ?_
    rw [legalTurn_iff]
    constructor
    · rintro ⟨hul, hl, hpre, hfin⟩
      exact ⟨⟨hul, by have := hpre.length_le; omega, by omega⟩, hpre, hfin⟩
    · rintro ⟨⟨hul, _, hl⟩, hpre, hfin⟩
      exact ⟨hul, by omega, hpre, hfin⟩
  rw [accepted_eq_acc, mayEnd_eq_acc b gold ms hne, key false, key true]
  constructor
  · exact exists_congr fun us => ⟨fun h => ⟨h.1, h.2.1⟩, fun h => ⟨h.1, h.2, fun hf => by cases hf⟩⟩
  · exact exists_congr fun us =>
      ⟨fun h => ⟨h.1, h.2.2 rfl⟩, fun h => ⟨h.1, h.2 ▸ List.prefix_refl _, fun _ => h.2⟩⟩

/-- **Every accepted move list can be continued to a complete legal turn**: it extends, inside the
four steps of the turn, to a list after which the turn may end.  (This is why a push may not be
started with the last step, and it rests on the pusher surviving the displacement of its victim,
`pusher_displace`.) -/
theorem C01_accepted_extends (b : Spec.Board) (gold : Bool) (hb : NoHanging b) (ms : List Mv)
    (hne : ms ≠ []) (hlen : ms.length ≤ 4) (h : accepted b gold ms = true) :
    ∃ ext, (ms ++ ext).length ≤ 4 ∧ mayEnd b gold (ms ++ ext) = true := by
  obtain ⟨us, hlt, ext, hext⟩ := ((C01_prefixes_of_turns b gold hb ms hne hlen).1).1 h
  have h4 := ((legalTurn_iff b gold us).1 hlt).2.2
  have hne' : ms ++ ext ≠ [] := by
    intro e; exact hne (List.append_eq_nil_iff.1 e).1
  refine ⟨ext, by rw [hext]; exact h4, ?_⟩
  exact ((C01_prefixes_of_turns b gold hb (ms ++ ext) hne' (by rw [hext]; exact h4)).2).2
    ⟨us, hlt, hext⟩

/-- **A fourth step always completes a turn**: an accepted list of four moves is the steps of a
legal turn, so the turn that ends by itself after the fourth step never leaves a push half-done. -/
theorem C01_fourth_step_completes (b : Spec.Board) (gold : Bool) (hb : NoHanging b) (ms : List Mv)
    (hlen : ms.length = 4) (h : accepted b gold ms = true) : mayEnd b gold ms = true := by
  have hne : ms ≠ [] := by intro e; rw [e] at hlen; cases hlen
  obtain ⟨us, hlt, hpre⟩ := ((C01_prefixes_of_turns b gold hb ms hne (by omega)).1).1 h
  have h4 := ((legalTurn_iff b gold us).1 hlt).2.2
  have heq : ms = steps us := hpre.eq_of_length (by have := hpre.length_le; omega)
  exact ((C01_prefixes_of_turns b gold hb ms hne (by omega)).2).2 ⟨us, hlt, heq⟩

/-- `accepted` is acceptance by the shared L2 game machine `Spec.State` (the one whose symmetry is
C11): the step actions are played one after the other from the turn start, each enabled when its
turn comes. -/
theorem C01_accepted_is_state_run (b : Spec.Board) (gold : Bool) (ms : List Mv) (hlen : ms.length ≤ 4) :
    accepted b gold ms = (State.run ⟨b, gold, 0, .none⟩ (ms.map fun m => Act.move m.1 m.2)).isSome := by
  unfold accepted
  rw [run_isSome_eq_runTurn ms b gold 0 .none (by omega)]

/-- The direction from turns to the machine of the first equivalence; it does not need the bound on the
length of `ms` (it follows). -/
theorem C01_turn_prefix_accepted (b : Spec.Board) (gold : Bool) (hb : NoHanging b) (us : List TUnit)
    (hlt : legalTurn b gold us = true) (ms : List Mv) (hpre : ms <+: steps us) :
    accepted b gold ms = true := by
  rw [accepted_eq_acc]
  obtain ⟨hul, _, hl⟩ := (legalTurn_iff b gold us).1 hlt
  exact (acc_iff_units false gold b hb 0 ms (by have := hpre.length_le; omega)).2
    ⟨us, hul, by omega, hpre, fun hf => by cases hf⟩

namespace TurnEnum

def board (ps : List (Nat × Cell)) : Spec.Board := fun k => (ps.find? (·.1 == k)).map (·.2)
def G (p : Spec.Piece) : Cell := ⟨true, p⟩
def S (p : Spec.Piece) : Cell := ⟨false, p⟩

/-- gold dog d4 (35), silver cat c4 (34), gold elephant b4 (33), gold rabbit h1 (63) -/
def exA : Spec.Board := board [(35, G .dog), (34, S .cat), (33, G .elephant), (63, G .rabbit)]
/-- a gold elephant alone on the trap c3 (42), a silver cat on d3 (43): not `NoHanging` -/
def exC : Spec.Board := board [(42, G .elephant), (43, S .cat)]
/-- gold dog b3 (41) next to the trap c3 (42), silver cat a3 (40) -/
def exD : Spec.Board := board [(41, G .dog), (40, S .cat)]

end TurnEnum
open TurnEnum

/-- the hypothesis of the theorems is satisfiable -/
example : NoHanging exA := noHanging_of_check _ (by decide +kernel)
example : NoHanging exD := noHanging_of_check _ (by decide +kernel)

/-- the dog leaves d4, the cat is pushed from c4 onto d4 by the elephant, the elephant
follows.  The player's labelling (single step, then push) and the machine's reading (pull by the
dog, then a single step of the elephant) are both legal turns with the same moves, and the
machine, which books the cat's step as the end of a pull, accepts them and lets the turn end. -/
example : legalTurn exA true [.single 35 .n, .push 34 .e 33 .e] = true := by decide +kernel
example : legalTurn exA true [.pull 35 .n 34 .e, .single 33 .e] = true := by decide +kernel
example : runTurn exA true 0 .none [(35, .n), (34, .e)] = some .none := by decide +kernel
example : mayEnd exA true [(35, .n), (34, .e), (33, .e)] = true := by decide +kernel

/-- a push is accepted as third and fourth step, the turn cannot end between its
halves, and it cannot be started with the fourth step -/
example : accepted exA true [(63, .w), (62, .e), (34, .s)] = true := by decide +kernel
example : mayEnd exA true [(63, .w), (62, .e), (34, .s)] = false := by decide +kernel
example : mayEnd exA true [(63, .w), (62, .e), (34, .s), (33, .e)] = true := by decide +kernel
example : accepted exA true [(63, .w), (62, .e), (63, .w), (34, .s)] = false := by decide +kernel
example : legalTurn exA true [.single 63 .w, .single 62 .e, .single 63 .w, .push 34 .s 33 .e] = false := by
  decide +kernel

/-- the puller is captured on the trap it steps onto; the pull is still completed -/
example : applyStep exD 41 .e 42 = none := by decide +kernel
example : legalTurn exD true [.pull 41 .e 40 .e] = true := by decide +kernel
example : mayEnd exD true [(41, .e), (40, .e)] = true := by decide +kernel

/-- the hypothesis `NoHanging` cannot be dropped: a pusher hanging on a trap disappears when its
victim is displaced, so the declarative push (conditions read before its first step) is not
accepted by the machine -/
example : noHangingB exC = false := by decide +kernel
example : legalTurn exC true [.push 43 .e 42 .e] = true := by decide +kernel
example : accepted exC true [(43, .e), (42, .e)] = false := by decide +kernel

/-! ### brute-force comparison of the two sides (evaluated, not proved)

Independent enumerators of both sides of `C01_prefixes_of_turns`: all move lists the L2 machine
accepts within a turn (with the "turn may end here" flag), and all legal L3 turns with their
steps and prefixes.  `agree` compares the two pairs of sets on a position.  The `#guard`s below run
it on a few positions when the file is built; the same enumerators (with arrays for boards and
sorted codes for sets) were run on 650 random clustered positions (3–5 pieces in a 3×3 window,
half of the windows containing a trap, capture rule applied first), both sides to move: 2,184,901
accepted move lists and 2,167,003 complete turns, no mismatch.  On 150 such positions without the
capture rule applied first (unsupported trap pieces possible) they report 12 mismatches. -/

namespace TurnEnum

/-- executable boards: a list of 64 cells -/
def ofList (l : List (Option Cell)) : Spec.Board := fun k => l.getD k none
def mk (ps : List (Nat × Cell)) : List (Option Cell) := (List.range 64).map (board ps)
def stepL (l : List (Option Cell)) (m : Mv) : List (Option Cell) :=
  (List.range 64).map (applyStep (ofList l) m.1 m.2)

/-- candidate moves: every direction from every occupied square (no other move is ever enabled) -/
def occMoves (l : List (Option Cell)) : List Mv :=
  ((List.range 64).filter fun i => (l.getD i none).isSome).flatMap fun i => Dir.all.map fun d => (i, d)

/-- all non-empty move lists the L2 machine accepts from the state (at most `n` more moves), each
with the flag "the turn may end here" -/
def l2 (gold : Bool) : Nat → List (Option Cell) → Nat → Pending → List (List Mv × Bool)
  | 0, _, _, _ => []
  | n+1, l, step, pend =>
    ((occMoves l).filter fun m => enabledMove (ofList l) gold step pend m.1 m.2).flatMap fun m =>
      let l' := stepL l m
      let p' := nextPending (ofList l) gold pend m.1 m.2
      ([m], passEnabled (step+1) p') :: (l2 gold n l' (step+1) p').map fun sf => (m :: sf.1, sf.2)

def candUnits (l : List (Option Cell)) (gold : Bool) : List TUnit :=
  let ms := occMoves l
  ms.flatMap fun m =>
    match l.getD m.1 none with
    | some c =>
      if c.gold == gold then
        TUnit.single m.1 m.2 :: ms.map fun m' => TUnit.pull m.1 m.2 m'.1 m'.2
      else ms.map fun m' => TUnit.push m.1 m.2 m'.1 m'.2
    | none => []

/-- all lists of units legal from the board with at most `budget` steps (fuel `f` bounds the
number of units) -/
def l3 (gold : Bool) : Nat → Nat → List (Option Cell) → List (List TUnit)
  | 0, _, _ => [[]]
  | f+1, budget, l =>
    [] :: ((candUnits l gold).filter fun u =>
        u.legal (ofList l) gold && decide (u.steps.length ≤ budget)).flatMap fun u =>
      (l3 gold f (budget - u.steps.length) (u.steps.foldl stepL l)).map (u :: ·)

def prefixesNE : List Mv → List (List Mv)
  | [] => []
  | m :: ms => [m] :: (prefixesNE ms).map (m :: ·)

/-- a move list as a number (injective on squares below 64) -/
def code (s : List Mv) : Nat :=
  s.foldl (fun a m => a * 257 + (m.1 * 4 + (match m.2 with | .n => 0 | .e => 1 | .s => 2 | .w => 3) + 1)) 0

def asSet (xs : List (List Mv)) : List Nat :=
  ((xs.map code).mergeSort (· ≤ ·)).foldr (fun x acc => if acc.head? == some x then acc else x :: acc) []

def agree (l : List (Option Cell)) (gold : Bool) : Bool :=
  let s2 := l2 gold 4 l 0 .none
  let p2 := s2.map (·.1)
  let e2 := (s2.filter (·.2)).map (·.1)
  let us := (l3 gold 4 4 l).filter fun u => legalTurn (ofList l) gold u
  let p3 := us.flatMap fun u => prefixesNE (steps u)
  let e3 := us.map steps
  asSet p2 == asSet p3 && asSet e2 == asSet e3

/-- to see that a comparison is not empty -/
def count (l : List (Option Cell)) (gold : Bool) : Nat := (l2 gold 4 l 0 .none).length

end TurnEnum

-- the positions of the examples above
#guard agree (mk [(35, G .dog), (34, S .cat), (33, G .elephant), (63, G .rabbit)]) true
#guard agree (mk [(41, G .dog), (40, S .cat)]) true && agree (mk [(41, G .dog), (40, S .cat)]) false
-- a corner, a frozen piece, both sides
#guard agree (mk [(56, G .elephant), (48, S .rabbit), (57, S .cat)]) true
#guard agree (mk [(56, G .elephant), (48, S .rabbit), (57, S .cat)]) false
-- around the trap c3 (42): support, capture of a pushed and of a pulling piece
#guard agree (mk [(35, G .elephant), (34, S .cat), (43, G .dog), (27, S .horse)]) true
#guard agree (mk [(41, S .rabbit), (43, G .horse), (50, S .dog), (34, G .cat)]) true
#guard agree (mk [(41, S .rabbit), (43, G .horse), (50, S .dog), (34, G .cat)]) false
#guard count (mk [(35, G .elephant), (34, S .cat), (43, G .dog), (27, S .horse)]) true = 1639
-- without `NoHanging` the two sides differ
#guard !agree (mk [(42, G .elephant), (43, S .cat)]) true

end Arimaa
