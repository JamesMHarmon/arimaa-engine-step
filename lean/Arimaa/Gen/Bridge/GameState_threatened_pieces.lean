-- GENERATED by /verif/tools/gen.py -- do not edit.  Bridge from the current text of `GameState::threatened_pieces` to the baseline text.
import Arimaa.Gen.Rs
import Arimaa.Gen.RsBase
import Arimaa.Gen.BridgeLadder
import Arimaa.Gen.Bridge.influenced_squares

namespace Arimaa.Gen.Bridge
open Arimaa Arimaa.Gen Arimaa.Rt

set_option maxHeartbeats 1000000 in
theorem bridge_GameState_threatened_pieces : @Rs.GameState_threatened_pieces = @RsBase.GameState_threatened_pieces := by
  funext a0 a1 a2 a3
  rs_ladder [Rs.GameState_threatened_pieces, RsBase.GameState_threatened_pieces, bridge_influenced_squares] [RsBase.influenced_squares] (skip) [Rs.GameState_threatened_pieces, RsBase.GameState_threatened_pieces, Rs.influenced_squares, RsBase.influenced_squares]

end Arimaa.Gen.Bridge
