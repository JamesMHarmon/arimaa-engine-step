import Arimaa.Lemmas.RsAgreeBoard
import Arimaa.Gen.Bridge.GameState_piece_board_for_step

namespace Arimaa.RsAgree
open Arimaa.Gen.RsBase Arimaa.Rt

theorem piece_board_for_step_eq (s : GameState) (i : Nat) :
    GameState_piece_board_for_step s i = Res.guard (s.pieceBoardForStepPanics i) (s.pieceBoardForStep i) := by
  unfold GameState_piece_board_for_step GameState.pieceBoardForStepPanics GameState.pieceBoardForStep
  cases hp : s.phase with
  | place => simp only [current_step_place s hp, Res.bind_panic]; rfl
  | play pp =>
    simp only [current_step_play s pp hp, Res.bind_ok, unwrap_play_phase s pp hp, index_eq _ _ s.board,
      Res.bind_ok_right, cond_ok_guard, PieceBoard_piece_board]
    by_cases h : i = pp.step <;> simp [h, beq_false_of_ne]

end Arimaa.RsAgree

namespace Arimaa.Code
open Arimaa.Gen.Rs Arimaa.Rt Arimaa.Gen.Bridge

theorem piece_board_for_step (s : GameState) (i : Nat) :
    GameState_piece_board_for_step s i = Res.guard (s.pieceBoardForStepPanics i) (s.pieceBoardForStep i) :=
  bridge_GameState_piece_board_for_step ▸ RsAgree.piece_board_for_step_eq s i

end Arimaa.Code
