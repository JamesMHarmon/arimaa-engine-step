-- GENERATED by /verif/tools/gen.py -- do not edit.  Bridge from the current text of `GameState::lost_all_rabbits` to the baseline text.
import Arimaa.Gen.Rs
import Arimaa.Gen.RsBase
import Arimaa.Gen.BridgeLadder

namespace Arimaa.Gen.Bridge
open Arimaa Arimaa.Gen Arimaa.Rt

set_option maxHeartbeats 1000000 in
theorem bridge_GameState_lost_all_rabbits : @Rs.GameState_lost_all_rabbits = @RsBase.GameState_lost_all_rabbits := by
  funext a0 a1
  rs_ladder [Rs.GameState_lost_all_rabbits, RsBase.GameState_lost_all_rabbits] [] (skip) [Rs.GameState_lost_all_rabbits, RsBase.GameState_lost_all_rabbits]

end Arimaa.Gen.Bridge
