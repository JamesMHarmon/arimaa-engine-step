import Arimaa.Lemmas.Sim

/-!
C12 — The reported push/pull status always describes the previous step.

`absPend` reads the model's status as the specification's `Pending`; `Spec.nextPending` is the
three-way split of the property (Spec/Rules.lean):
* an enemy piece was displaced and the step did not complete a pull  ⇒ `push (vacated square) (its type)`;
* a non-rabbit friendly piece stepped and no push was pending        ⇒ `pull (square it left) (its type)`;
* otherwise                                                          ⇒ nothing pending.
-/
namespace Arimaa
open Spec

/-- **Status after a step.**  After an offered step `(i, d)` that does not end the turn
(`step < 3`), the new state's status is exactly `nextPending` of the old position, status and step. -/
theorem C12_status_after_step (s : GameState) (pp : PlayPhase) (h : PlayInv s pp) (i : Nat) (d : Dir)
    (ha : Action.move i d ∈ s.validActionsNoRep) (hlt : pp.step < 3) :
    ∃ pp', (s.takeAction (.move i d)).phase = .play pp' ∧
      absPend pp'.pps = nextPending (absBoard s.board) s.p1Turn (absPend pp.pps) i (dirSpec d) :=
  let ⟨pp', h'⟩ := playInv_step s pp h _ ha
  ⟨pp', h'.phase, (sim_step_mid s pp h i d ha hlt pp' h'.phase).1⟩

/-- The three-way split in the words of the property (specification level). -/
theorem C12_three_way (b : Spec.Board) (gold : Bool) (pend : Pending) (i : Nat) (d : Spec.Dir) (c : Cell)
    (hc : b i = some c) :
    (c.gold ≠ gold → pullEnd b gold pend i d = false → nextPending b gold pend i d = .push i c.piece) ∧
    (c.gold ≠ gold → pullEnd b gold pend i d = true → nextPending b gold pend i d = .none) ∧
    (c.gold = gold → pend.isPush = false → c.piece ≠ .rabbit → nextPending b gold pend i d = .pull i c.piece) ∧
    (c.gold = gold → (pend.isPush = true ∨ c.piece = .rabbit) → nextPending b gold pend i d = .none) := by
  refine ⟨?_, ?_, ?_, ?_⟩
  · intro hg hp; rw [nextPending_enemy b gold pend i d c hc hg, hp]; rfl
  · intro hg hp; rw [nextPending_enemy b gold pend i d c hc hg, hp]; rfl
  · intro hg hp hr; rw [nextPending_friend b gold pend i d c hc hg hp, if_pos hr]
  · intro hg h
    cases hp : pend.isPush
    · rw [nextPending_friend b gold pend i d c hc hg hp,
        if_neg (fun hr => hr (h.resolve_left (by rw [hp]; exact Bool.false_ne_true)))]
    · exact nextPending_complete b gold pend i d c hc hg hp

/-- **Nothing pending at the start of a turn**: after the fourth step and after a pass. -/
theorem C12_turn_start_none (s : GameState) (pp : PlayPhase) (hph : s.phase = .play pp) :
    (∀ i d, pp.step ≥ 3 → ∃ pp', (s.takeAction (.move i d)).phase = .play pp' ∧ pp'.pps = .none ∧ pp'.step = 0) ∧
    (∃ pp', (s.takeAction .pass).phase = .play pp' ∧ pp'.pps = .none ∧ pp'.step = 0) :=
  ⟨fun i d hge =>
    let ⟨⟨pp', h1, h2, h3⟩, _⟩ := turnStart_of_endsTurn s pp hph (.move i d) (decide_eq_true hge)
    ⟨pp', h1, h3, h2⟩,
   let ⟨⟨pp', h1, h2, h3⟩, _⟩ := turnStart_of_endsTurn s pp hph .pass rfl
   ⟨pp', h1, h3, h2⟩⟩

/-- **While a push is pending** the rule-only list consists exactly of the steps of unfrozen,
strictly stronger friendly pieces into the vacated square (`Spec.pushEnd`), and no pass. -/
theorem C12_push_pending_actions (s : GameState) (pp : PlayPhase) (h : PlayInv s pp) (q : Nat) (v : Piece)
    (hp : pp.pps = .mustCompletePush q v) :
    (∀ i d, Action.move i d ∈ s.validActionsNoRep ↔
      i < 64 ∧ pushEnd (absBoard s.board) s.p1Turn (.push q (toSpec v)) i (dirSpec d) = true) ∧
    Action.pass ∉ s.validActionsNoRep := by
  constructor
  · intro i d
    rw [h.enabled_iff i d, hp]
    exact and_congr_right fun _ => by rw [absPend, enabledMove_push]
  · rw [pass_mem_noRep_iff s pp h.phase, hp]
    simp [passEnabled, absPend, Pending.isPush]

/-- what `pushEnd` says, spelled out -/
theorem C12_push_end_meaning (b : Spec.Board) (gold : Bool) (q : Nat) (v : Spec.Piece) (i : Nat) (d : Spec.Dir) :
    pushEnd b gold (.push q v) i d = true ↔
      ∃ c, b i = some c ∧ nbr i d = some q ∧ b q = none ∧ c.gold = gold ∧ frozen b i = false ∧
        v.strength < c.piece.strength :=
  pushEnd_iff b gold q v i d

/-- converse of the first clause of `C12_three_way` -/
theorem nextPending_eq_push (b : Spec.Board) (gold : Bool) (pend : Pending) (i : Nat) (d : Spec.Dir) (c : Cell)
    (hc : b i = some c) (q : Nat) (v : Spec.Piece) (h : nextPending b gold pend i d = .push q v) :
    c.gold ≠ gold ∧ pullEnd b gold pend i d = false ∧ v = c.piece ∧ q = i := by
  by_cases hg : c.gold = gold
  · cases hp : pend.isPush
    · rw [nextPending_friend b gold pend i d c hc hg hp] at h; split at h <;> cases h
    · rw [nextPending_complete b gold pend i d c hc hg hp] at h; cases h
  · rw [nextPending_enemy b gold pend i d c hc hg] at h
    cases hpe : pullEnd b gold pend i d
    · rw [hpe, if_neg Bool.false_ne_true] at h
      injection h with h1 h2
      exact ⟨hg, rfl, h2.symm, h1.symm⟩
    · rw [hpe] at h; cases h

/-- **The status is always hashable**: it never names a pulling rabbit, and a pushed piece always
has a strictly stronger piece next to it, so it is never an elephant (the two panicking arms of the
status hash are unreachable). -/
theorem C12_status_hashable (s : GameState) (pp : PlayPhase) (h : PlayInv s pp) (i : Nat) (d : Dir)
    (ha : Action.move i d ∈ s.validActionsNoRep) :
    (∀ q x, s.nextPushPullState pp i d = .possiblePull q x → x ≠ .rabbit) ∧
    (∀ q v, s.nextPushPullState pp i d = .mustCompletePush q v → v ≠ .elephant) := by
  have hh := nextPending_hashable _ _ _ _ _ _ ((h.enabled_iff i d).mp ha).2
  rw [← nextStatus_eq s pp h i d ha] at hh
  constructor
  · intro q x hq ex
    rw [hq, ex] at hh
    exact hh rfl
  · intro q v hq ev
    rw [hq, ev] at hh
    exact hh rfl

end Arimaa
