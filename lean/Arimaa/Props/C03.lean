import Arimaa.Lemmas.Turn
import Arimaa.Lemmas.Diagram

/-!
# C03 — turns last 1–4 steps; side, step counter and move number advance accordingly

Property text: after an offered step the same player stays on move with the step counter one
higher, unless it was the fourth step of the turn; after the fourth step or a pass the other player
is on move at step 0 with nothing pending and a fresh per-turn record.  The move number grows by one
exactly when Silver's turn ends and never otherwise, and the step counter is always between 0 and 3.

All theorems below are about the L1 model (`GameState.takeAction`) and hold for *every* step
`Action.move sq d` and for `Action.pass`, offered or not, which is stronger than the property asks.
`moveNo` is an unbounded `Nat` in the model; the machine-integer overflow at `usize::MAX` is the
recorded finding F4, see `C03_overflow_point`.
-/
namespace Arimaa
open GameState

/-- In a play-phase state with fewer than three steps made this turn,
any step leaves the same player on move, in the play phase, with the step counter exactly one
higher and the move number unchanged (the turn-start hash is kept, too). -/
theorem C03_step_after_move (s : GameState) (pp : PlayPhase) (sq : Nat) (d : Dir)
    (hph : s.phase = .play pp) (hlt : pp.step < 3) :
    ∃ pp', (s.takeAction (.move sq d)).phase = .play pp' ∧
      (s.takeAction (.move sq d)).p1Turn = s.p1Turn ∧
      pp'.step = pp.step + 1 ∧
      (s.takeAction (.move sq d)).step = s.step + 1 ∧
      (s.takeAction (.move sq d)).moveNo = s.moveNo ∧
      pp'.initHash = pp.initHash := by
  simp only [takeAction]
  rw [movePiece_lt3 s pp hph sq d hlt]
  exact ⟨_, rfl, rfl, by simp [PlayPhase.step], by simp [GameState.step, hph, PlayPhase.step],
    rfl, rfl⟩

/-- What "a fresh turn of the other player" means for the state `s'` reached from `s`:
other side to move, play phase at step 0, nothing pending, no earlier boards of the turn recorded,
no capture recorded, turn-start hash = current hash, and the current hash is the newest entry of the
hash history. -/
def FreshTurn (s s' : GameState) : Prop :=
  s'.p1Turn = (!s.p1Turn) ∧
  ∃ pp', s'.phase = .play pp' ∧ pp'.step = 0 ∧ s'.step = 0 ∧ pp'.pps = .none ∧ pp'.prev = [] ∧
    pp'.trapped = false ∧ pp'.initHash = s'.hash ∧ pp'.hist.head? = some s'.hash

/-- A turn-ending action, pass and fourth step alike, hands the move to the other player with a fresh
per-turn record. -/
theorem C03_turn_end (s : GameState) (pp : PlayPhase) (a : Action) (hph : s.phase = .play pp)
    (he : endsTurn pp a = true) : FreshTurn s (s.takeAction a) := by
  obtain ⟨nb, cap, h, e⟩ := turnEnd_of_endsTurn s pp hph a he
  rw [e]
  exact ⟨rfl, _, rfl, rfl, rfl, rfl, rfl, rfl, rfl, rfl⟩

/-- A step made when three steps were already made this turn
hands the move to the other player with a fresh per-turn record. -/
theorem C03_turn_end_by_fourth_step (s : GameState) (pp : PlayPhase) (sq : Nat) (d : Dir)
    (hph : s.phase = .play pp) (h3 : pp.step = 3) :
    FreshTurn s (s.takeAction (.move sq d)) :=
  C03_turn_end s pp _ hph (decide_eq_true (Nat.le_of_eq h3.symm))

/-- A pass in any play-phase state hands the move to the other player with
a fresh per-turn record; the board is unchanged. -/
theorem C03_turn_end_by_pass (s : GameState) (pp : PlayPhase) (hph : s.phase = .play pp) :
    FreshTurn s (s.takeAction .pass) ∧ (s.takeAction .pass).board = s.board :=
  ⟨C03_turn_end s pp .pass hph rfl, (congrArg GameState.board (pass_play s pp hph) :)⟩

/-- `endsTurn pp a` ("a pass, or a step when `step ≥ 3`") really is "the side to move changes",
for steps and passes from a play-phase state. -/
theorem C03_endsTurn_iff_side_changes (s : GameState) (pp : PlayPhase) (a : Action)
    (hph : s.phase = .play pp) (ha : a.isTurnAction = true) :
    endsTurn pp a = true ↔ (s.takeAction a).p1Turn = (!s.p1Turn) := by
  rw [(takeAction_side_moveNo s pp hph a ha).1]
  cases endsTurn pp a <;> cases s.p1Turn <;> simp

/-- For a step or a pass from a play-phase state: the move number grows by one
exactly when the action ends the turn and Silver (`p1Turn = false`) was on move; in every other
case it is unchanged. -/
theorem C03_move_number (s : GameState) (pp : PlayPhase) (a : Action)
    (hph : s.phase = .play pp) (ha : a.isTurnAction = true) :
    ((s.takeAction a).moveNo = s.moveNo + 1 ↔ (endsTurn pp a = true ∧ s.p1Turn = false)) ∧
    (¬ (endsTurn pp a = true ∧ s.p1Turn = false) → (s.takeAction a).moveNo = s.moveNo) := by
  rw [(takeAction_side_moveNo s pp hph a ha).2]
  cases endsTurn pp a <;> cases s.p1Turn <;> simp

/-- The same, in the words of the property: the move number changes (by exactly one) iff the side to
move changes from Silver to Gold. -/
theorem C03_move_number_iff_silver_turn_ends (s : GameState) (pp : PlayPhase) (a : Action)
    (hph : s.phase = .play pp) (ha : a.isTurnAction = true) :
    (s.takeAction a).moveNo =
      s.moveNo + (if s.p1Turn = false ∧ (s.takeAction a).p1Turn = true then 1 else 0) := by
  obtain ⟨h1, h2⟩ := takeAction_side_moveNo s pp hph a ha
  rw [h2, h1]
  cases endsTurn pp a <;> cases s.p1Turn <;> rfl

/-- A placement sets the move number to 2 exactly when it switches
to the play phase (the last Silver placement, i.e. the end of Silver's setup turn) and to 1
otherwise; so in a game from `GameState.initial` (move number 1) the number stays 1 through the
setup and becomes 2 when Silver's setup turn ends. -/
theorem C03_move_number_setup (s : GameState) (p : Piece) :
    ((s.takeAction (.place p)).moveNo = 2 ∧ (s.takeAction (.place p)).isPlay = true) ∨
    ((s.takeAction (.place p)).moveNo = 1 ∧ (s.takeAction (.place p)).isPlay = false) := by
  simp only [takeAction, isPlay, playPhase?, place_phase, place_moveNo]
  split
  · exact .inl ⟨rfl, rfl⟩
  · exact .inr ⟨rfl, rfl⟩

/-- Finding F4 (overflow point) as a model-level fact.  With the move number at
`usize::MAX = 2^64 - 1`, Silver ending a turn (by a pass or by a fourth step) makes the model's
unbounded move number `2^64`, which no longer fits a 64-bit `usize`: this is where the code's
`move_number + 1` overflows (panic in debug, wrap-around to 0 in release).  Every other theorem of
C03 is about the unbounded number and is exact for the code as long as `moveNo < 2^64 - 1`. -/
theorem C03_overflow_point (s : GameState) (pp : PlayPhase) (hph : s.phase = .play pp)
    (hmax : s.moveNo = usizeMax) (hsilver : s.p1Turn = false) :
    (s.takeAction .pass).moveNo = 2 ^ 64 ∧ (s.takeAction .pass).moveNo > usizeMax ∧
    (pp.step = 3 → ∀ sq d, (s.takeAction (.move sq d)).moveNo = 2 ^ 64 ∧
      (s.takeAction (.move sq d)).moveNo > usizeMax) := by
  have key : ∀ n, n = s.moveNo + 1 → n = 2 ^ 64 ∧ n > usizeMax := fun n hn => by
    rw [hn, hmax]
    exact ⟨rfl, Nat.lt_succ_self _⟩
  have hp := key _ ((C03_move_number s pp .pass hph rfl).1.2 ⟨rfl, hsilver⟩)
  exact ⟨hp.1, hp.2, fun h3 sq d => key _ ((C03_move_number s pp (.move sq d) hph rfl).1.2
    ⟨by simp [endsTurn, h3], hsilver⟩)⟩

/-- The turn invariant `TurnInv` — `step ≤ 3`, and at step 0 nothing
is pending and no capture is recorded — is preserved by every action. -/
theorem C03_turnInv_preserved (s : GameState) (a : Action) (h : TurnInv s) :
    TurnInv (s.takeAction a) :=
  turnInv_takeAction s a h

/-- From any state satisfying `TurnInv` — in particular
`GameState.initial`, every successfully parsed position, and the state after the last setup
placement — every state reached by any list of actions of any length satisfies `TurnInv`; so its
step counter (`GameState.step`, 0 in setup) is between 0 and 3. -/
theorem C03_step_range (s : GameState) (as : List Action) (h : TurnInv s) :
    TurnInv (s.run as) ∧ (s.run as).step ≤ 3 := by
  have hi := turnInv_run s as h
  refine ⟨hi, ?_⟩
  unfold GameState.step
  split
  · next pp hph => exact (hi.play hph).1
  · exact Nat.zero_le _

/-- The starting points of the property's quantifier satisfy `TurnInv`: the initial state, every
parsed position, every state just built with `PlayPhase.initial` (which is what the 32nd placement,
a fourth step and a pass build), and in fact any state right after a placement. -/
theorem C03_turnInv_starts :
    TurnInv GameState.initial ∧
    (∀ t s, parseState t = .ok s → TurnInv s) ∧
    (∀ (s : GameState) h hist, s.phase = .play (PlayPhase.initial h hist) → TurnInv s) ∧
    (∀ (s : GameState) p, TurnInv (s.place p)) :=
  ⟨turnInv_initial,
    fun t s h => by rw [parseState_eq_diagramState t s h]; exact turnInv_of_initial _ _ _ rfl,
    turnInv_of_initial, turnInv_place⟩

/-- Games from the initial state: the step counter never leaves `0..3`. -/
theorem C03_step_range_from_initial (as : List Action) : (GameState.initial.run as).step ≤ 3 :=
  (C03_step_range _ as turnInv_initial).2

/-- Games from any parsed position, with any starting move number: the step counter never leaves
`0..3`. -/
theorem C03_step_range_from_parsed (t : List Char) (s : GameState) (h : parseState t = .ok s)
    (as : List Action) : (s.run as).step ≤ 3 :=
  (C03_step_range _ as (C03_turnInv_starts.2.1 t s h)).2

/-- a concrete play-phase state at step 0 (empty board; the theorems do not look at the board) -/
private def ex0_C03 : GameState :=
  { p1Turn := false, moveNo := 7, phase := .play (PlayPhase.initial 0 [0]), board := Board.empty,
    hash := 0 }

example : ex0_C03.phase = .play (PlayPhase.initial 0 [0]) ∧ (PlayPhase.initial 0 [0]).step < 3 :=
  ⟨rfl, by decide⟩
example : TurnInv ex0_C03 := turnInv_of_initial _ _ _ rfl
example : ∃ pp, (ex0_C03.runMoves [(0, .up), (0, .up), (0, .up)]).phase = .play pp ∧ pp.step = 3 :=
  ⟨_, rfl, rfl⟩
/-- Silver ends a turn by the fourth step: the move number goes from 7 to 8 -/
example : (ex0_C03.runMoves [(0, .up), (0, .up), (0, .up), (0, .up)]).moveNo = 8 ∧
    (ex0_C03.runMoves [(0, .up), (0, .up), (0, .up), (0, .up)]).p1Turn = true := ⟨rfl, rfl⟩
/-- the hypotheses of `C03_overflow_point` are satisfiable -/
example : ∃ (s : GameState) (pp : PlayPhase), s.phase = .play pp ∧ s.moveNo = usizeMax ∧ s.p1Turn = false :=
  ⟨{ ex0_C03 with moveNo := usizeMax }, _, rfl, rfl, rfl⟩
example : ∃ s, parseState "2g".toList = .ok s := ⟨_, rfl⟩

end Arimaa
