-- GENERATED by /verif/tools/gen.py -- do not edit.  Bridge from the current text of `GameState::extend_with_valid_curr_player_piece_moves` to the baseline text.
import Arimaa.Gen.Rs
import Arimaa.Gen.RsBase
import Arimaa.Gen.BridgeLadder
import Arimaa.Gen.Bridge.GameState_curr_player_non_frozen_pieces
import Arimaa.Gen.Bridge.GameState_invalid_rabbit_moves
import Arimaa.Gen.Bridge.can_move_in_direction

namespace Arimaa.Gen.Bridge
open Arimaa Arimaa.Gen Arimaa.Rt

set_option maxHeartbeats 1000000 in
theorem bridge_GameState_extend_with_valid_curr_player_piece_moves : @Rs.GameState_extend_with_valid_curr_player_piece_moves = @RsBase.GameState_extend_with_valid_curr_player_piece_moves := by
  funext a0 a1 a2
  rs_ladder [Rs.GameState_extend_with_valid_curr_player_piece_moves, RsBase.GameState_extend_with_valid_curr_player_piece_moves, bridge_GameState_curr_player_non_frozen_pieces, bridge_GameState_invalid_rabbit_moves, bridge_can_move_in_direction] [RsBase.GameState_curr_player_non_frozen_pieces, RsBase.GameState_invalid_rabbit_moves, RsBase.can_move_in_direction] (skip) [Rs.GameState_extend_with_valid_curr_player_piece_moves, RsBase.GameState_extend_with_valid_curr_player_piece_moves, Rs.GameState_curr_player_non_frozen_pieces, Rs.GameState_invalid_rabbit_moves, Rs.GameState_opponent_piece_mask, Rs.GameState_threatened_pieces, Rs.can_move_in_direction, Rs.influenced_squares, Rs.shift_pieces_in_opp_direction, Rs.supported_pieces, RsBase.GameState_curr_player_non_frozen_pieces, RsBase.GameState_invalid_rabbit_moves, RsBase.GameState_opponent_piece_mask, RsBase.GameState_threatened_pieces, RsBase.can_move_in_direction, RsBase.influenced_squares, RsBase.shift_pieces_in_opp_direction, RsBase.supported_pieces]

end Arimaa.Gen.Bridge
