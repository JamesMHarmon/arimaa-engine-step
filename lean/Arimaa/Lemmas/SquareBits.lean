import Arimaa.Lemmas.Bits

/-! Single-bit boards: `sqBit sq` with `sq < 64`. -/
namespace Arimaa

theorem sqBit_bit (sq i : Nat) (h : sq < 64) : bit (sqBit sq) i = decide (i = sq) := by
  rw [sqBit_bit_raw]
  by_cases hi : i = sq
  · subst hi; simp [h]
  · simp [hi]

theorem sqBit_ne_zero (sq : Nat) (h : sq < 64) : sqBit sq ≠ 0 := by
  rw [bb_ne_zero_iff]
  exact ⟨sq, h, by simp [sqBit_bit sq sq h]⟩

theorem sqBit_and_mask (x : BB) (j : Nat) (hj : j < 64) :
    sqBit j &&& x = if bit x j then sqBit j else 0 := by
  apply bb_ext; intro i _
  rw [bit_and, sqBit_bit j i hj]
  by_cases e : i = j
  · subst e
    cases bit x i <;> simp [sqBit_bit i i hj]
  · cases bit x j <;> simp [e, sqBit_bit j i hj]

theorem sqBit_and_ne_zero (x : BB) (j : Nat) (hj : j < 64) : ((sqBit j &&& x) != 0) = bit x j := by
  rw [sqBit_and_mask x j hj]
  cases bit x j
  · rfl
  · simpa using sqBit_ne_zero j hj

theorem and_sqBit_ne_zero (x : BB) (j : Nat) (hj : j < 64) : ((x &&& sqBit j) != 0) = bit x j := by
  rw [BitVec.and_comm]; exact sqBit_and_ne_zero x j hj

theorem sqOfBit_sqBit (sq : Nat) (h : sq < 64) : sqOfBit (sqBit sq) = sq := by
  have hz := sqBit_ne_zero sq h
  unfold sqOfBit
  rw [if_neg hz]
  obtain ⟨h1, h2, h3⟩ := tz64_spec _ hz
  rw [sqBit_bit _ _ h] at h2
  simpa using h2

theorem sqBit_injective (s t : Nat) (hs : s < 64) (ht : t < 64) (h : sqBit s = sqBit t) : s = t := by
  have := sqBit_bit t s ht
  rw [← h, sqBit_bit s s hs] at this
  simpa using this

theorem squaresOf_sqBit (sq : Nat) (h : sq < 64) : squaresOf (sqBit sq) = [sq] := by
  have : ∀ i ∈ List.range 64, (sqBit sq).getLsbD i = decide (i = sq) := fun i _ => sqBit_bit sq i h
  unfold squaresOf
  rw [List.filter_congr this, List.filter_eq, List.count_range, if_pos h]
  rfl

theorem sqBit_beq (q r : Nat) (hq : q < 64) (hr : r < 64) : (sqBit q == sqBit r) = decide (q = r) :=
  bool_eq_decide (beq_iff_eq.trans ⟨sqBit_injective q r hq hr, fun e => e ▸ rfl⟩)

theorem and_sqBit_eq_zero (x : BB) (q : Nat) (hq : q < 64) (h : bit x q = false) : x &&& sqBit q = 0 :=
  bb_ext _ _ fun i _ => by
    rw [bit_and, sqBit_bit q i hq, bit_zero]
    by_cases e : i = q
    · rw [e, h]; rfl
    · rw [decide_eq_false e]; exact Bool.and_false _

end Arimaa
