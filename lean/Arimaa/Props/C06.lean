import Arimaa.Lemmas.ListLogic
import Arimaa.Lemmas.Turn

/-!
# C06 — repetition rules withhold only what they must (unconditional shape part)

Property text: the offered action list equals, in the same order, the rule-only list minus exactly
those turn-ending actions (pass, or a fourth step) whose result would equal the turn's starting
board or would be the third start-of-turn occurrence of that board with that side to move; actions
that do not end the turn are never withheld.  Forgetting the history at a capture never changes
which actions are offered.

Proved here, without a hash-collision hypothesis: `validActions` is `validActionsNoRep` filtered, in
order, by `withheld`, the code's own hash-level test, which is false for every action that does not
end the turn.  Left out here: that the hash-level test coincides with the board-level one ("result
equals the turn-start board / third occurrence"), and the capture clause; both need `CollisionFreeAt`
(Props/C06b.lean), and finding F8 shows that the unconditional version is false (Props/C06F8.lean).
-/
namespace Arimaa
open GameState

/-- **Filter shape.**  In a play-phase state the offered list is the rule-only list with exactly
the `withheld` actions removed, relative order kept. -/
theorem C06_filter_shape (s : GameState) (pp : PlayPhase) (hph : s.phase = .play pp) :
    s.validActions = s.validActionsNoRep.filter (fun a => !s.withheld pp a) :=
  validActions_filter_shape s pp hph

/-- Membership form of `C06_filter_shape`. -/
theorem C06_mem_iff (s : GameState) (pp : PlayPhase) (hph : s.phase = .play pp) (a : Action) :
    a ∈ s.validActions ↔ a ∈ s.validActionsNoRep ∧ s.withheld pp a = false :=
  mem_validActions_iff s pp hph a

/-- **Same order.**  In every state (setup or play) the offered list is a sublist of the rule-only
list: same elements in the same relative order, some possibly missing. -/
theorem C06_sublist (s : GameState) : List.Sublist s.validActions s.validActionsNoRep :=
  validActions_sublist s

/-- Hash-level meaning of `withheld` for a step at `step = 3`: no capture this turn, and the hash
the resulting state would have if the side did not switch equals the turn-start hash, or the hash
of the state the step really leads to occurs at least twice in the hash history. -/
theorem C06_withheld_step_meaning (s : GameState) (pp : PlayPhase) (hph : s.phase = .play pp)
    (h3 : pp.step = 3) (sq : Nat) (d : Dir) :
    s.withheld pp (.move sq d) = true ↔
      pp.trapped = false ∧
      (zMovePiece s.hash s.p1Turn s.board pp.step (s.board.takeMove sq d).1 0 s.p1Turn =
          pp.initHash ∨
        histContainsTwice pp.hist (s.takeAction (.move sq d)).hash = true) := by
  have hh : (s.takeAction (.move sq d)).hash =
      zMovePiece s.hash s.p1Turn s.board pp.step (s.board.takeMove sq d).1 0 (!s.p1Turn) :=
    congrArg GameState.hash (movePiece_ge3 s pp hph sq d (by omega))
  rw [hh]
  simp [withheld, isPassingLikeAction, h3]

/-- Hash-level meaning of `withheld` for the pass: a pass is possible by the rules (at least one
step made, no push pending) and the hash of the position with the step counter reset equals the
turn-start hash, or the hash of the state the pass leads to occurs at least twice in the hash
history. -/
theorem C06_withheld_pass_meaning (s : GameState) (pp : PlayPhase) (hph : s.phase = .play pp) :
    s.withheld pp .pass = true ↔
      (pp.step ≥ 1 ∧ pp.pps.isMustCompletePush = false) ∧
      (pp.initHash = zExcludeStep s.hash pp.step ∨
        histContainsTwice pp.hist (s.takeAction .pass).hash = true) := by
  have hh : (s.takeAction .pass).hash = zPass s.hash pp.step := congrArg GameState.hash (pass_play s pp hph)
  -- `canPass false && !canPass true`: the rule part `x` of `canPass` cancels inside the negation
  have hb : ∀ x y : Bool, (x && !(x && y)) = (x && !y) := by decide
  rw [hh, withheld_pass, canPass_play s pp hph, canPass_play s pp hph, Decidable.or_iff_not_imp_left]
  simp only [Bool.not_false, Bool.true_or, Bool.and_true, Bool.not_true, Bool.false_or, hb,
    Bool.and_eq_true, Bool.not_eq_true', decide_eq_true_eq, Bool.and_eq_false_imp, bne_iff_ne, ne_eq,
    Bool.not_eq_false']

/-- **Only turn-ending actions are withheld.**  An action of the rule-only list that is not
offered is either the pass (allowed by the rules, refused by the repetition check) or a step made
at `step = 3` of a turn without capture that is passing-like; in both cases it ends the turn. -/
theorem C06_only_turn_ending_withheld (s : GameState) (pp : PlayPhase) (hph : s.phase = .play pp)
    (a : Action) (hin : a ∈ s.validActionsNoRep) (hout : a ∉ s.validActions) :
    ((a = .pass ∧ s.canPass false = true ∧ s.canPass true = false) ∨
      (pp.step = 3 ∧ pp.trapped = false ∧ (∃ sq d, a = .move sq d) ∧
        s.isPassingLikeAction pp a = true)) ∧
    endsTurn pp a = true := by
  have hw : s.withheld pp a = true := by
    cases h : s.withheld pp a
    · exact absurd ((C06_mem_iff s pp hph a).2 ⟨hin, h⟩) hout
    · rfl
  refine ⟨?_, by
    cases he : endsTurn pp a
    · rw [withheld_false_of_not_endsTurn s pp a he] at hw; cases hw
    · rfl⟩
  cases a with
  | pass =>
    rw [withheld_pass] at hw
    simp only [Bool.and_eq_true, Bool.not_eq_true'] at hw
    exact Or.inl ⟨rfl, hw.1, hw.2⟩
  | place p => simp [withheld, isPassingLikeAction] at hw
  | move sq d =>
    simp only [withheld, Bool.or_eq_true, Bool.and_eq_true, beq_iff_eq, Bool.not_eq_true',
      reduceCtorEq, false_and, false_or] at hw
    exact Or.inr ⟨hw.1.1, hw.1.2, ⟨sq, d, rfl⟩, hw.2⟩

/-- **Actions that do not end the turn are never withheld**: every step of the rule-only list made
before the fourth step of the turn is offered. -/
theorem C06_non_turn_ending_never_withheld (s : GameState) (pp : PlayPhase)
    (hph : s.phase = .play pp) (a : Action) (hin : a ∈ s.validActionsNoRep)
    (hne : endsTurn pp a = false) : a ∈ s.validActions :=
  (C06_mem_iff s pp hph a).2 ⟨hin, withheld_false_of_not_endsTurn s pp a hne⟩

/-- After a capture in the current turn no step is withheld (the code switches the filter off):
only the pass can then be missing. -/
theorem C06_after_capture_only_pass_withheld (s : GameState) (pp : PlayPhase)
    (hph : s.phase = .play pp) (ht : pp.trapped = true) (a : Action)
    (hin : a ∈ s.validActionsNoRep) (hout : a ∉ s.validActions) : a = .pass := by
  rcases (C06_only_turn_ending_withheld s pp hph a hin hout).1 with h | h
  · exact h.1
  · rw [ht] at h; cases h.2.1

/-- Gold elephant alone on e4. -/
private def exB_C06 : Board := Board.new (sqBit 36) (sqBit 36) 0 0 0 0 0
/-- One step made; the turn-start hash is chosen so that a pass would restore the turn-start
position: the pass is in the rule-only list and is withheld. -/
private def ex1_C06 : GameState :=
  { p1Turn := true, moveNo := 2
    phase := .play { prev := [exB_C06], pps := .none, initHash := zExcludeStep 5 1, hist := [],
                     trapped := false }
    board := exB_C06, hash := 5 }

example : ex1_C06.validActionsNoRep =
    [.move 36 .up, .move 36 .right, .move 36 .down, .move 36 .left, .pass] ∧
    ex1_C06.validActions = [.move 36 .up, .move 36 .right, .move 36 .down, .move 36 .left] := by
  decide +kernel

example : Action.pass ∈ ex1_C06.validActionsNoRep ∧ Action.pass ∉ ex1_C06.validActions := by
  decide +kernel

end Arimaa
