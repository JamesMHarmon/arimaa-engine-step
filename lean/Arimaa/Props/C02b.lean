import Arimaa.Props.C02
import Arimaa.Lemmas.Material

/-!
C02 (continued) — "Consequently material never increases": on `absBoard s.board`, the number of
squares holding a given cell (`cellCount`: one colour, one piece type), of occupied squares
(`pieceCount`) and of squares whose content satisfies any predicate false on the empty square
(`countOn`) never grows by an offered action.
-/
namespace Arimaa
open Spec GameState

def pieceCount (b : Spec.Board) : Nat := ((List.range 64).filter (fun k => (b k).isSome)).length

/-- `pieceCount` is the count of the occupied squares `0..63` -/
theorem C02_pieceCount_eq_countOn (b : Spec.Board) : pieceCount b = countOn Option.isSome b := by
  unfold pieceCount countOn
  rw [List.countP_eq_length_filter]

/-- **A move keeps material, a capture cannot add any** (specification level).  Moving the piece
of `i` onto an empty square `j ≠ i` (both on the board) leaves the number of cells of every colour
and type, and the number of pieces, unchanged; the capture rule never raises any of them; hence a
step `applyStep b i d` whose destination is empty never raises any of them. -/
theorem C02_material_spec (b : Spec.Board) (c : Cell) :
    (∀ i j, i < 64 → j < 64 → i ≠ j → b j = none →
      cellCount (move b i j) c = cellCount b c ∧ pieceCount (move b i j) = pieceCount b) ∧
    (cellCount (capture b) c ≤ cellCount b c ∧ pieceCount (capture b) ≤ pieceCount b) ∧
    (∀ i d, i < 64 → (∀ j, nbr i d = some j → b j = none) →
      cellCount (applyStep b i d) c ≤ cellCount b c ∧ pieceCount (applyStep b i d) ≤ pieceCount b) := by
  simp only [cellCount_eq_countOn, C02_pieceCount_eq_countOn]
  exact ⟨fun i j hi hj hij hbj => ⟨countOn_move _ rfl b i j hi hj hij hbj, countOn_move _ rfl b i j hi hj hij hbj⟩,
    ⟨countOn_capture_le _ rfl b, countOn_capture_le _ rfl b⟩,
    fun i d hi he => ⟨countOn_applyStep_le _ rfl b i d hi he, countOn_applyStep_le _ rfl b i d hi he⟩⟩

/-- **No count of pieces ever increases by an offered action** (general form): in a state
satisfying the play invariant, for every action `a` of the rule-only list and every property `P` of
square contents that an empty square does not have, the number of squares with `P` does not grow;
a pass keeps it. -/
theorem C02_count_antitone (s : GameState) (pp : PlayPhase) (h : PlayInv s pp) (a : Action)
    (ha : a ∈ s.validActionsNoRep) (P : Option Cell → Bool) (hP : P none = false) :
    countOn P (absBoard (s.takeAction a).board) ≤ countOn P (absBoard s.board) ∧
    (a = .pass → countOn P (absBoard (s.takeAction a).board) = countOn P (absBoard s.board)) := by
  cases a with
  | place p => exact (validActions_play_notPlace s pp h.phase false p ha).elim
  | pass =>
    rw [C02_pass_board s pp h.phase]
    exact ⟨Nat.le_refl _, fun _ => rfl⟩
  | move i d =>
    obtain ⟨_, j, o, hcap, _⟩ := step_board s pp h i d ha
    refine ⟨?_, fun e => nomatch e⟩
    rw [hcap, ← countOn_move P hP _ i j o.src_lt o.dst_lt (nbr_ne i j _ o.nbr_eq).symm o.dst_empty]
    exact countOn_capture_le P hP _

/-- **Material never increases (one action).**  In a state satisfying the play invariant, for every
action `a` of the rule-only list and every cell `c` (a colour and a piece type): the board after `a`
holds at most as many `c` as before, and at most as many pieces in total; after a pass exactly as
many. -/
theorem C02_material_antitone (s : GameState) (pp : PlayPhase) (h : PlayInv s pp) (a : Action)
    (ha : a ∈ s.validActionsNoRep) (c : Cell) :
    cellCount (absBoard (s.takeAction a).board) c ≤ cellCount (absBoard s.board) c ∧
    pieceCount (absBoard (s.takeAction a).board) ≤ pieceCount (absBoard s.board) ∧
    (a = .pass → cellCount (absBoard (s.takeAction a).board) c = cellCount (absBoard s.board) c ∧
      pieceCount (absBoard (s.takeAction a).board) = pieceCount (absBoard s.board)) := by
  obtain ⟨h1, h2⟩ := C02_count_antitone s pp h a ha (fun o => o == some c) rfl
  obtain ⟨h3, h4⟩ := C02_count_antitone s pp h a ha Option.isSome rfl
  simp only [cellCount_eq_countOn, C02_pieceCount_eq_countOn]
  exact ⟨h1, h3, fun e => ⟨h2 e, h4 e⟩⟩

/-- **Material never increases along a run** (from its start): from a state satisfying the play
invariant, after any list of actions each taken from the rule-only list of the state where it is
applied, every cell count and the number of pieces are at most what they were at the start. -/
theorem C02_material_antitone_from_start (s : GameState) (pp : PlayPhase) (h : PlayInv s pp) (as : List Action)
    (ho : OfferedNR s as) (c : Cell) :
    cellCount (absBoard (s.run as).board) c ≤ cellCount (absBoard s.board) c ∧
    pieceCount (absBoard (s.run as).board) ≤ pieceCount (absBoard s.board) := by
  induction as generalizing s pp with
  | nil => exact ⟨Nat.le_refl _, Nat.le_refl _⟩
  | cons a as ih =>
    obtain ⟨pp2, h2⟩ := playInv_step s pp h a ho.1
    obtain ⟨hc, hp, _⟩ := C02_material_antitone s pp h a ho.1 c
    obtain ⟨ihc, ihp⟩ := ih (s.takeAction a) pp2 h2 ho.2
    rw [run_cons]
    exact ⟨Nat.le_trans ihc hc, Nat.le_trans ihp hp⟩

/-- **Material never increases along a game.**  From a state satisfying the play invariant, along
every list of actions each taken from the rule-only list of the state where it is applied (so also
along every list of offered actions, `offered_offeredNR`): at every later point of the run, the
number of cells of each colour and type, and the number of pieces, is at most what it was at every
earlier point (`as` = the run up to the earlier point, `bs` = the continuation). -/
theorem C02_material_antitone_run (s : GameState) (pp : PlayPhase) (h : PlayInv s pp) (as bs : List Action)
    (ho : OfferedNR s (as ++ bs)) (c : Cell) :
    cellCount (absBoard (s.run (as ++ bs)).board) c ≤ cellCount (absBoard (s.run as).board) c ∧
    pieceCount (absBoard (s.run (as ++ bs)).board) ≤ pieceCount (absBoard (s.run as).board) := by
  obtain ⟨ho1, ho2⟩ := (offeredNR_append s as bs).mp ho
  obtain ⟨pp1, h1⟩ := playInv_run s pp h as ho1
  rw [run_append]
  exact C02_material_antitone_from_start (s.run as) pp1 h1 bs ho2 c

/-- the hypotheses of `C02_material_antitone` are satisfiable: `exC02` with the rabbit's step c2-d2 … -/
example : ∃ pp, PlayInv exC02 pp ∧ Action.move 50 .right ∈ exC02.validActionsNoRep := by
  exact ⟨PlayPhase.initial 0 [0], ⟨rfl, wf_of_wfWords _ (by decide +kernel), trivial, by decide⟩, by decide +kernel⟩

/-- … and the inequality is strict there: the step captures the Gold cat on c3 -/
example :
    cellCount (absBoard exC02.board) ⟨true, .cat⟩ = 1 ∧
    cellCount (absBoard (exC02.takeAction (.move 50 .right)).board) ⟨true, .cat⟩ = 0 ∧
    cellCount (absBoard exC02.board) ⟨true, .rabbit⟩ = 1 ∧
    cellCount (absBoard (exC02.takeAction (.move 50 .right)).board) ⟨true, .rabbit⟩ = 1 ∧
    cellCount (absBoard (exC02.takeAction (.move 50 .right)).board) ⟨false, .rabbit⟩ = 1 ∧
    pieceCount (absBoard exC02.board) = 3 ∧
    pieceCount (absBoard (exC02.takeAction (.move 50 .right)).board) = 2 := by decide +kernel

example : OfferedNR exC02 [.move 50 .right, .pass] := by
  refine ⟨by decide +kernel, by decide +kernel, trivial⟩

end Arimaa
