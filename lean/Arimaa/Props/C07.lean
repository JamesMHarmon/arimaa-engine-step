import Arimaa.Lemmas.ListLogic
import Arimaa.Lemmas.Turn

/-!
# C07 — unfinished states always have an action; summary queries match the action list

Property text: whenever no result is reported the offered action list is non-empty, in setup and
in play, so a driver that asks for the result before asking for actions can never get stuck.  In
the middle of a turn a result is reported exactly when the offered list is empty, and it is a loss
for the player on move; the can-pass query (with and without repetition checking) and the has-move
query answer true exactly when a pass, respectively any action, is in the corresponding list.

The play-phase theorems about `hasMove`/`isTerminal` carry the hypothesis `pp.step ≤ 3`, which every
reachable state satisfies (`TurnInv`, C03).  It is needed: the code's filter tests `step == 3`, its
mirror in `has_move` tests `step < 3`, and these are complementary only for `step ≤ 3` (`ex4`).

Setup phase: non-emptiness of the placement list needs the setup count invariant of C09 and is
stated with that explicit hypothesis (`C07_setup_partial`).
-/
namespace Arimaa
open GameState Gen

/-- **Can-pass query.**  In every state and for both values of the repetition flag `r`,
`canPass r` is true exactly when the pass is in the list `validActions_ r` (`r = true`: the offered
list `validActions`; `r = false`: the rule-only list `validActionsNoRep`). -/
theorem C07_can_pass_iff (s : GameState) (r : Bool) :
    s.canPass r = (s.validActions_ r).contains .pass := by
  rw [Bool.eq_iff_iff, List.contains_iff_mem, pass_mem_validActions__iff]

/-- The two instances of `C07_can_pass_iff` in the words of the API. -/
theorem C07_can_pass_iff_api (s : GameState) :
    (s.canPass true = true ↔ Action.pass ∈ s.validActions) ∧
    (s.canPass false = true ↔ Action.pass ∈ s.validActionsNoRep) :=
  ⟨(pass_mem_validActions__iff s true).symm, (pass_mem_validActions__iff s false).symm⟩

/-- **Has-move query.**  In a play-phase state with `step ≤ 3`, `hasMove` (asked, as at every call
site of the crate, about the state's own board) reports no result exactly when the offered list
is non-empty. -/
theorem C07_has_move_iff (s : GameState) (pp : PlayPhase) (hph : s.phase = .play pp)
    (h3 : pp.step ≤ 3) :
    s.hasMove s.board = none ↔ s.validActions ≠ [] :=
  (validActions_ne_nil_iff s pp hph h3).symm

/-- When `hasMove` does report a result it is a loss for the player on move (any state, any
board). -/
theorem C07_has_move_result (s : GameState) (b : Board) (h : s.hasMove b ≠ none) :
    s.hasMove b = some (if s.p1Turn then .silverWin else .goldWin) :=
  hasMove_eq_some s b h

/-- **Mid-turn result.**  In the middle of a turn (`0 < step ≤ 3`) a result is reported exactly
when the offered list is empty, and then it is a loss for the player on move: Silver wins if Gold
(`p1Turn`) is on move, Gold wins otherwise. -/
theorem C07_mid_turn_result (s : GameState) (pp : PlayPhase) (hph : s.phase = .play pp)
    (hpos : pp.step > 0) (h3 : pp.step ≤ 3) :
    (s.isTerminal ≠ none ↔ s.validActions = []) ∧
    (s.validActions = [] →
      s.isTerminal = some (if s.p1Turn then .silverWin else .goldWin)) := by
  rw [isTerminal_mid_turn_eq s pp hph hpos h3]
  exact ⟨by split <;> simp [*], fun he => if_pos he⟩

/-- **No result ⇒ some action (play phase, at a start of turn or mid-turn).**  In a play-phase state with `step ≤ 3`, if
`isTerminal` reports no result then the offered list is non-empty. -/
theorem C07_no_result_nonempty (s : GameState) (pp : PlayPhase) (hph : s.phase = .play pp)
    (h3 : pp.step ≤ 3) (hnone : s.isTerminal = none) : s.validActions ≠ [] :=
  (C07_has_move_iff s pp hph h3).1 (hasMove_none_of_isTerminal_none s pp hph hnone)

/-- `C07_no_result_nonempty` over the property's quantifier: for every state reached by any action
list from a state satisfying `TurnInv` (the initial state, any parsed position), if it is in the
play phase and reports no result, its offered list is non-empty. -/
theorem C07_no_result_nonempty_reachable (s0 : GameState) (hinv : TurnInv s0) (as : List Action)
    (pp : PlayPhase) (hph : (s0.run as).phase = .play pp)
    (hnone : (s0.run as).isTerminal = none) : (s0.run as).validActions ≠ [] :=
  C07_no_result_nonempty _ pp hph ((turnInv_run s0 as hinv).play hph).1 hnone

/-- `C07_mid_turn_result` and `C07_has_move_iff` over the property's quantifier. -/
theorem C07_queries_reachable (s0 : GameState) (hinv : TurnInv s0) (as : List Action)
    (pp : PlayPhase) (hph : (s0.run as).phase = .play pp) :
    ((s0.run as).hasMove (s0.run as).board = none ↔ (s0.run as).validActions ≠ []) ∧
    (pp.step > 0 → ((s0.run as).isTerminal ≠ none ↔ (s0.run as).validActions = [])) := by
  have h3 := ((turnInv_run s0 as hinv).play hph).1
  exact ⟨C07_has_move_iff _ pp hph h3, fun hpos => (C07_mid_turn_result _ pp hph hpos h3).1⟩

/-- **Setup phase (partial).**  In the place phase no result is ever reported and `hasMove` says
"has a move".  The full statement also claims `validActions ≠ []` for every reachable setup state;
what is proved here adds the explicit hypothesis that some piece type is still below its limit for
the player on move (some row `(f, lim, p)` of the placement table has fewer than `lim` pieces of
type `f` of the current player on the board) — this is the setup count invariant of C09 ("fewer
than 16 pieces placed by the player on move"), `C09_offered_nonempty` in `Props/C09.lean`. -/
theorem C07_setup_partial (s : GameState) (hph : s.phase = .place) :
    s.isTerminal = none ∧ (∀ b, s.hasMove b = none) ∧
    ((∃ e ∈ placementTable,
        popcount (s.board.typeBits e.1 &&& s.currPlayerPieceMask s.board) < e.2.1) →
      s.validActions ≠ []) := by
  refine ⟨by simp [isTerminal, hph], fun b => by simp [hasMove, hph], ?_⟩
  rintro ⟨⟨f, lim, p⟩, hmem, hlt⟩
  unfold validActions
  rw [validActions__place s hph]
  intro hnil
  have : Action.place p ∈ s.validPlacement := by
    unfold validPlacement
    simp only [List.mem_filterMap]
    exact ⟨(f, lim, p), hmem, by simp only at hlt ⊢; rw [if_pos hlt]⟩
  rw [hnil] at this
  cases this

/-- Gold elephant alone on e4. -/
private def exB_C07 : Board := Board.new (sqBit 36) (sqBit 36) 0 0 0 0 0

/-- mid-turn state, one step made -/
private def ex1_C07 : GameState :=
  { p1Turn := true, moveNo := 2
    phase := .play { prev := [exB_C07], pps := .none, initHash := 1, hist := [], trapped := false }
    board := exB_C07, hash := 5 }

example : ex1_C07.isTerminal = none ∧ ex1_C07.validActions ≠ [] ∧ ex1_C07.canPass true = true ∧
    Action.pass ∈ ex1_C07.validActions := by decide +kernel

/-- mid-turn state where everything is withheld: empty board (no steps at all) and the pass would
restore the turn-start position. -/
private def ex2 : GameState :=
  { p1Turn := true, moveNo := 2
    phase := .play { prev := [Board.empty], pps := .none, initHash := zExcludeStep 5 1, hist := [],
                     trapped := false }
    board := Board.empty, hash := 5 }

example : ex2.validActions = [] ∧ ex2.validActionsNoRep = [.pass] ∧
    ex2.isTerminal = some .silverWin ∧ ex2.canPass false = true ∧ ex2.canPass true = false := by
  decide +kernel

/-- The hypothesis `step ≤ 3` of `C07_has_move_iff` cannot be dropped (model-level remark about an
unreachable state): with FOUR recorded boards, no capture, the pass refused by the repetition check
and every step leading to a hash that occurs twice in the history, `hasMove` reports a loss (its
mirror tests `step < 3`) although the offered list is not empty (the filter tests `step == 3`). -/
private def ex4 : GameState :=
  { p1Turn := true, moveNo := 2
    phase := .play
      { prev := [exB_C07, exB_C07, exB_C07, exB_C07], pps := .none, initHash := zExcludeStep 5 4
        hist := Dir_ALL.flatMap fun d =>
          let h := zMovePiece 5 true exB_C07 4 (exB_C07.takeMove 36 d).1 0 false
          [h, h]
        trapped := false }
    board := exB_C07, hash := 5 }

example : ex4.hasMove ex4.board = some .silverWin ∧ ex4.validActions ≠ [] := by decide +kernel

/-- the hypothesis of `C07_setup_partial` holds in the initial state -/
example : GameState.initial.phase = .place ∧
    ∃ e ∈ placementTable, popcount (GameState.initial.board.typeBits e.1 &&&
      GameState.initial.currPlayerPieceMask GameState.initial.board) < e.2.1 :=
  ⟨rfl, (.elephant, 1, .elephant), by decide, by decide +kernel⟩

end Arimaa
