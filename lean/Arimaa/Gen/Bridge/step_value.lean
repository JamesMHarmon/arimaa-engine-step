-- GENERATED by /verif/tools/gen.py -- do not edit.  Bridge from the current text of `step_value` to the baseline text.
import Arimaa.Gen.Rs
import Arimaa.Gen.RsBase
import Arimaa.Gen.BridgeLadder

namespace Arimaa.Gen.Bridge
open Arimaa Arimaa.Gen Arimaa.Rt

set_option maxHeartbeats 1000000 in
theorem bridge_step_value : @Rs.step_value = @RsBase.step_value := by
  funext a0 a1
  rs_ladder [Rs.step_value, RsBase.step_value] [] (skip) [Rs.step_value, RsBase.step_value]

end Arimaa.Gen.Bridge
