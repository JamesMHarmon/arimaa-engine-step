import Arimaa.Lemmas.GenAgree

/-! Agreement (see `GenAgree`) of the game-result helpers. -/
namespace Arimaa
open Gen GameState

set_option linter.unusedSimpArgs false

theorem agree_rabbit_at_goal (s : GameState) (b : Board) :
    Gen.Fn.rabbit_at_goal s.p1Turn b = s.rabbitAtGoal b := by
  first
    | rfl
    | (simp only [Gen.Fn.rabbit_at_goal, rabbitAtGoal] <;> first | rfl | ac_rfl)
    | bitwise_agree

theorem agree_lost_all_rabbits (s : GameState) (b : Board) :
    Gen.Fn.lost_all_rabbits s.p1Turn b = s.lostAllRabbits b := by
  first
    | rfl
    | (simp only [Gen.Fn.lost_all_rabbits, lostAllRabbits] <;> first | rfl | ac_rfl)
    | bitwise_agree

end Arimaa
