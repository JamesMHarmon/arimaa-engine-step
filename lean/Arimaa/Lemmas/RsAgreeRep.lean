import Arimaa.Lemmas.RsAgreeHash

namespace Arimaa.RsAgree
open Arimaa.Gen.RsBase Arimaa.Rt

theorem is_passing_like_action_eq (s : GameState) (pp : PlayPhase) (hp : s.phase = .play pp) (a : Action) :
    GameState_is_passing_like_action s a =
      Res.guard (s.isPassingLikeActionPanics pp a) (s.isPassingLikeAction pp a) := by
  unfold GameState_is_passing_like_action GameState.isPassingLikeActionPanics GameState.isPassingLikeAction
  simp only [unwrap_play_phase s pp hp, Res.bind_ok]
  cases a with
  | pass => rfl
  | place p => rfl
  | move sq d =>
    simp only [board_take_action_move, zobrist_move_piece _ s pp hp, is_p1_turn_to_move,
      hash_history_contains_hash_twice_eq, Board.takeActionPanics, Board.movePiecePanics, bind_guard_guard,
      bind_guard_ok, Bool.or_self, Bool.cond_true_left, Bool.or_false]

theorem remove_passing_like_actions_eq (s : GameState) (pp : PlayPhase) (hp : s.phase = .play pp)
    (va : List Action) :
    GameState_remove_passing_like_actions s va =
      Res.guard (s.removePassingLikeActionsPanics pp va) (s.removePassingLikeActions pp va) := by
  unfold GameState_remove_passing_like_actions GameState.removePassingLikeActionsPanics
    GameState.removePassingLikeActions
  simp only [unwrap_play_phase s pp hp, Res.bind_ok, play_phase_step]
  cases h : (pp.step == 3 && !pp.trapped)
  · rfl
  · simp only [cond_true, Bool.true_and, if_true]
    rw [Rt.filterM_guard va _ (fun a => s.isPassingLikeActionPanics pp a) (fun a => !s.isPassingLikeAction pp a)]
    intro a _
    rw [is_passing_like_action_eq s pp hp, bind_guard_ok]

theorem has_non_passing_like_loop (s : GameState) (pp : PlayPhase) (hp : s.phase = .play pp) (va : List Action) :
    Rt.findRet va (fun action => Res.bind (GameState_is_passing_like_action s action) (fun t =>
        Res.ok (bif !t then some true else none))) =
      Res.guard (GameState.hnplLoopPanics s pp va)
        (if va.any (fun a => !s.isPassingLikeAction pp a) then some true else none) := by
  induction va with
  | nil => rfl
  | cons a rest ih =>
    rw [Rt.findRet_cons, is_passing_like_action_eq s pp hp, ih, bind_guard_ok, Res.bind_guard]
    simp only [GameState.hnplLoopPanics, List.any_cons]
    cases s.isPassingLikeActionPanics pp a
    · rcases Bool.eq_false_or_eq_true (s.isPassingLikeAction pp a) with h | h <;> simp only [h] <;> rfl
    · rfl

theorem has_non_passing_like_action_eq (s : GameState) (pp : PlayPhase) (hp : s.phase = .play pp)
    (va : List Action) :
    GameState_has_non_passing_like_action s va =
      Res.guard (s.hasNonPassingLikeActionPanics pp va) (s.hasNonPassingLikeAction pp va) := by
  unfold GameState_has_non_passing_like_action GameState.hasNonPassingLikeActionPanics
    GameState.hasNonPassingLikeAction
  simp only [unwrap_play_phase s pp hp, Res.bind_ok, play_phase_step, blt_eq_decide, has_non_passing_like_loop s pp hp,
    bind_guard_ok, cond_ok_guard]
  cases va.isEmpty
  · cases (decide (pp.step < 3) || pp.trapped)
    · cases (va.any fun a => !s.isPassingLikeAction pp a) <;> rfl
    · rfl
  · rfl

end Arimaa.RsAgree
