import Arimaa.Props.C08
import Arimaa.Lemmas.RsAgreeStep
import Arimaa.Lemmas.RsAgreeTHash
import Arimaa.Lemmas.CodeHash
import Arimaa.Gen.Bridge.GameState_eq
import Arimaa.Gen.Bridge.GameState_hash
import Arimaa.Gen.Bridge.piece_board_value

/-!
C08 for the regenerated code (`Gen/Rs.lean`, written from the Rust text on every run).  `C08_code_agrees` lists, as one
obligation, the agreements with the hand model of the functions C08 speaks of, so that a change of the Rust text that
alters behaviour breaks an obligation here without a test having to find the input; a corollary whose hypothesis names
a list the code returned also cites `Code.rule_only` / `Code.offered`.  (written by tools/mkrprops.py)
-/
namespace Arimaa
open GameState Arimaa.Gen.Rs Arimaa.Rt Arimaa.Gen.Bridge

/-- the agreement theorems C08 rests on, about the CURRENT functions, as one obligation -/
theorem C08_code_agrees :
    (∀ (s : GameState) (a : Action), GameState_take_action s a = Res.guard (s.takeActionPanics a) (s.takeAction a)) ∧
    (∀ (b : Board) (p1 : Bool) (step : Nat), Zobrist_from_piece_board b p1 step = Res.guard (zFromPieceBoardPanics b step) (zFromPieceBoard b p1 step)) ∧
    (∀ prev new : Board, piece_board_value prev new = Res.guard (pieceBoardValuePanics prev new) (pieceBoardValue prev new)) ∧
    (∀ s : GameState, GameState_transposition_hash s = Res.guard s.transpositionHashPanics s.transpositionHash) ∧
    (∀ a b : GameState, GameState_eq a b = (a.hash == b.hash)) ∧
    (∀ (s : GameState) (st : List BB), GameState_hash s st = st ++ [s.hash]) :=
  ⟨Code.take_action,
   Code.from_piece_board,
   bridge_piece_board_value ▸ RsAgree.piece_board_value_eq,
   Code.transposition_hash,
   bridge_GameState_eq ▸ RsAgree.game_state_eq,
   bridge_GameState_hash ▸ RsAgree.game_state_hash⟩

/-- **`Hash` is consistent with `==` in the code as it is now**: two states the regenerated `eq` calls equal feed
the same word to any hasher (the word both compare: the board-state hash) -/
theorem C08_code_hash_consistent_with_eq (a b : GameState) (st : List BB) (h : GameState_eq a b = true) :
    GameState_hash a st = GameState_hash b st := by
  simp only [bridge_GameState_eq, bridge_GameState_hash, RsAgree.game_state_eq, RsAgree.game_state_hash] at h ⊢
  have : a.hash = b.hash := by simpa using h
  rw [this]

/-- **C08 for the code as it is now**: if the incremental hash of a play state equals the from-scratch hash, then
after a step or pass computed by the regenerated `take_action` it still does — and the regenerated
`Zobrist::from_piece_board` of the new board, side and step returns exactly the stored hash -/
theorem C08_code_incremental_eq_scratch (s s' : GameState) (hplay : s.isPlay = true) (h : HashOk s) (a : Action)
    (hna : a.isPlace = false) (ht : GameState_take_action s a = .ok s') :
    ∃ pp', s'.phase = .play pp' ∧ s'.hash = zFromPieceBoard s'.board s'.p1Turn pp'.step ∧
      ∀ x, Zobrist_from_piece_board s'.board s'.p1Turn pp'.step = .ok x → x = s'.hash := by
  have h2 := Code.successor ht
  subst h2
  obtain ⟨pp', hp, hh⟩ := C08_incremental_eq_scratch s hplay h [a] (by simpa using hna) 1
  simp only [List.take_succ_cons, List.take_zero, List.foldl_cons, List.foldl_nil] at hp hh
  refine ⟨pp', hp, hh, ?_⟩
  intro x hx
  rw [RsAgree.eq_of_guard_eq_ok (Code.from_piece_board _ _ _) hx, hh]

end Arimaa
