-- GENERATED by /verif/tools/gen.py -- do not edit.  Bridge from the current text of `PieceBoardState::piece_type_at_square` to the baseline text.
import Arimaa.Gen.Rs
import Arimaa.Gen.RsBase
import Arimaa.Gen.BridgeLadder
import Arimaa.Gen.Bridge.piece_type_at_bit

namespace Arimaa.Gen.Bridge
open Arimaa Arimaa.Gen Arimaa.Rt

set_option maxHeartbeats 1000000 in
theorem bridge_PieceBoardState_piece_type_at_square : @Rs.PieceBoardState_piece_type_at_square = @RsBase.PieceBoardState_piece_type_at_square := by
  funext a0 a1
  rs_ladder [Rs.PieceBoardState_piece_type_at_square, RsBase.PieceBoardState_piece_type_at_square, bridge_piece_type_at_bit] [RsBase.piece_type_at_bit] (skip) [Rs.PieceBoardState_piece_type_at_square, RsBase.PieceBoardState_piece_type_at_square, Rs.piece_type_at_bit, RsBase.piece_type_at_bit]

end Arimaa.Gen.Bridge
