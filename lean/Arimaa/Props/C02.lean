import Arimaa.Lemmas.Sim

/-!
C02 — A step moves one piece one square and captures exactly unsupported trap pieces.

`absBoard : Board → Spec.Board` reads the eight bitboards as "square ↦ optional (owner, piece)".
`Spec.applyStep b i d = capture (move b i j)` with `j` the `d`-neighbour of `i`.
-/
namespace Arimaa
open Spec GameState

/-- **Refinement.**  Applying an offered step `(i, d)` in a state satisfying the play invariant:
the source square is occupied, the destination `j` is the `d`-neighbour of `i`, on the board and
empty, and the new board is exactly `capture (move board i j)` - the piece of `i` now stands on `j`
with its type and owner, every other square is as before, and then every piece on a trap square
without a friendly neighbour (and nothing else) is removed.  The new board is well-formed. -/
theorem C02_refines (s : GameState) (pp : PlayPhase) (h : PlayInv s pp) (i : Nat) (d : Dir)
    (ha : Action.move i d ∈ s.validActionsNoRep) :
    ∃ c j, absBoard s.board i = some c ∧ nbr i (dirSpec d) = some j ∧ absBoard s.board j = none ∧
      absBoard (s.takeAction (.move i d)).board = capture (move (absBoard s.board) i j) ∧
      absBoard (s.takeAction (.move i d)).board = applyStep (absBoard s.board) i (dirSpec d) ∧
      WF (s.takeAction (.move i d)).board := by
  obtain ⟨c, j, o, hcap, hw'⟩ := step_board s pp h i d ha
  exact ⟨c, j, o.src, o.nbr_eq, o.dst_empty, hcap, by rw [hcap, applyStep, o.nbr_eq], hw'⟩

/-- **Frame of a move** (specification level): only the two squares change; the moved piece keeps
its type and owner. -/
theorem C02_move_frame (b : Spec.Board) (i j : Nat) (hne : j ≠ i) :
    move b i j j = b i ∧ move b i j i = none ∧ ∀ k, k ≠ i → k ≠ j → move b i j k = b k :=
  ⟨move_dst b i j, move_src b i j hne.symm, move_other b i j⟩

/-- **Captures are exact** (specification level): `capture` removes precisely the pieces that stand
on a trap square (c3, f3, c6, f6 = squares 42, 45, 18, 21) with no friendly orthogonal neighbour,
and leaves every other cell untouched. -/
theorem C02_capture_exact (b : Spec.Board) (k : Nat) :
    (capture b k = none ↔ b k = none ∨ ∃ c, b k = some c ∧ isTrap k = true ∧ hasFriend b k c.gold = false) ∧
    (∀ c, capture b k = some c → b k = some c) := by
  refine ⟨?_, fun c hc => (capture_some b k c hc).1⟩
  rw [capture_apply, ← hanging_iff]
  cases hanging b k <;> simp

/-- the four trap squares are c6, f6, c3, f3 -/
theorem C02_trap_squares (k : Nat) : isTrap k = true ↔ k = 18 ∨ k = 21 ∨ k = 42 ∨ k = 45 := by
  simp [isTrap, or_assoc]

/-- **No piece changes type or colour, nothing appears.**  After an offered step every cell of the
new board is either the same cell as before on the same square, or - on the destination square -
the cell that stood on the source square. -/
theorem C02_no_type_or_colour_change (s : GameState) (pp : PlayPhase) (h : PlayInv s pp) (i : Nat) (d : Dir)
    (ha : Action.move i d ∈ s.validActionsNoRep) (k : Nat) (c : Cell)
    (hk : absBoard (s.takeAction (.move i d)).board k = some c) :
    absBoard s.board k = some c ∨ (nbr i (dirSpec d) = some k ∧ absBoard s.board i = some c) := by
  obtain ⟨c0, j, hc0, hn, _, hcap, _, _⟩ := C02_refines s pp h i d ha
  rw [hcap] at hk
  have hm := (capture_some _ k c hk).1
  obtain ⟨fj, fi, fo⟩ := C02_move_frame (absBoard s.board) i j (nbr_ne i j _ hn)
  by_cases ekj : k = j
  · subst ekj; exact Or.inr ⟨hn, fj ▸ hm⟩
  · by_cases eki : k = i
    · subst eki; rw [fi] at hm; cases hm
    · exact Or.inl (fo k eki ekj ▸ hm)

/-- **A pass leaves the board unchanged.** -/
theorem C02_pass_board (s : GameState) (pp : PlayPhase) (hph : s.phase = .play pp) :
    (s.takeAction .pass).board = s.board :=
  (congrArg GameState.board (pass_play s pp hph) :)

/-- Gold cat on c3 (trap, square 42) supported only by the Gold rabbit on c2 (square 50); the rabbit
steps to d2 and the cat is captured. -/
def exC02 : GameState :=
  { p1Turn := true, moveNo := 5, hash := 0
    board := Board.new (sqBit 42 ||| sqBit 50) 0 0 0 0 (sqBit 42) (sqBit 50 ||| sqBit 9)
    phase := .play (PlayPhase.initial 0 [0]) }

example : Action.move 50 .right ∈ exC02.validActionsNoRep := by decide +kernel
example : (exC02.takeAction (.move 50 .right)).board.cats = 0 := by decide +kernel

end Arimaa
