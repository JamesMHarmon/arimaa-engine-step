import Arimaa.Props.C09
import Arimaa.Lemmas.RsAgreeStep
import Arimaa.Lemmas.RsAgreeOffered
import Arimaa.Gen.Bridge.GameState_valid_placement
import Arimaa.Gen.Bridge.PieceBoardState_placement_bit

/-!
C09 for the regenerated code (`Gen/Rs.lean`, written from the Rust text on every run).  `C09_code_agrees` lists, as one
obligation, the agreements with the hand model of the functions C09 speaks of, so that a change of the Rust text that
alters behaviour breaks an obligation here without a test having to find the input; a corollary whose hypothesis names
a list the code returned also cites `Code.rule_only` / `Code.offered`.  (written by tools/mkrprops.py)
-/
namespace Arimaa
open GameState Arimaa.Gen.Rs Arimaa.Rt Arimaa.Gen.Bridge

/-- the agreement theorems C09 rests on, about the CURRENT functions, as one obligation -/
theorem C09_code_agrees :
    (∀ (s : GameState) (a : Action), GameState_take_action s a = Res.guard (s.takeActionPanics a) (s.takeAction a)) ∧
    (∀ s : GameState, GameState_valid_placement s = s.validPlacement) ∧
    (∀ b : Board, PieceBoardState_placement_bit b = Res.guard b.placementBitPanics b.placementBit) :=
  ⟨Code.take_action,
   bridge_GameState_valid_placement ▸ RsAgree.valid_placement,
   bridge_PieceBoardState_placement_bit ▸ RsAgree.placement_bit⟩

/-- **C09 for the code as it is now**: during setup the regenerated `valid_actions` offers exactly the piece types
the mover has not yet placed in full, in the fixed order elephant … rabbit -/
theorem C09_code_offered (s : GameState) (hph : s.phase = .place) (l : List Action)
    (hl : GameState_valid_actions s = .ok l) :
    l = (([.elephant, .camel, .horse, .dog, .cat, .rabbit] : List Piece).filter
        (fun t => decide (moverCount s t < complement t))).map Action.place := by
  rw [Code.offered hl]
  exact C09_offered s hph

end Arimaa
