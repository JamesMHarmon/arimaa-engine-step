-- GENERATED by /verif/tools/gen.py -- do not edit.  Bridge from the current text of `PieceBoardState::bits_for_piece` to the baseline text.
import Arimaa.Gen.Rs
import Arimaa.Gen.RsBase
import Arimaa.Gen.BridgeLadder
import Arimaa.Gen.Bridge.PieceBoardState_bits_by_piece_type

namespace Arimaa.Gen.Bridge
open Arimaa Arimaa.Gen Arimaa.Rt

set_option maxHeartbeats 1000000 in
theorem bridge_PieceBoardState_bits_for_piece : @Rs.PieceBoardState_bits_for_piece = @RsBase.PieceBoardState_bits_for_piece := by
  funext a0 a1 a2
  rs_ladder [Rs.PieceBoardState_bits_for_piece, RsBase.PieceBoardState_bits_for_piece, bridge_PieceBoardState_bits_by_piece_type] [RsBase.PieceBoardState_bits_by_piece_type] (cases a1 <;> cases a2) [Rs.PieceBoardState_bits_for_piece, RsBase.PieceBoardState_bits_for_piece, Rs.PieceBoardState_bits_by_piece_type, RsBase.PieceBoardState_bits_by_piece_type]

end Arimaa.Gen.Bridge
