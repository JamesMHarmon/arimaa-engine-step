-- GENERATED by /verif/tools/gen.py -- do not edit.  Bridge from the current text of `GameState::valid_actions_no_rep` to the baseline text.
import Arimaa.Gen.Rs
import Arimaa.Gen.RsBase
import Arimaa.Gen.BridgeLadder
import Arimaa.Gen.Bridge.GameState_valid_actions_

namespace Arimaa.Gen.Bridge
open Arimaa Arimaa.Gen Arimaa.Rt

set_option maxHeartbeats 1000000 in
theorem bridge_GameState_valid_actions_no_rep : @Rs.GameState_valid_actions_no_rep = @RsBase.GameState_valid_actions_no_rep := by
  funext a0
  rs_ladder [Rs.GameState_valid_actions_no_rep, RsBase.GameState_valid_actions_no_rep, bridge_GameState_valid_actions_] [RsBase.GameState_valid_actions_]

end Arimaa.Gen.Bridge
