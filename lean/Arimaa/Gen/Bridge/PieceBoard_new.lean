-- GENERATED by /verif/tools/gen.py -- do not edit.  Bridge from the current text of `PieceBoard::new` to the baseline text.
import Arimaa.Gen.Rs
import Arimaa.Gen.RsBase
import Arimaa.Gen.BridgeLadder

namespace Arimaa.Gen.Bridge
open Arimaa Arimaa.Gen Arimaa.Rt

set_option maxHeartbeats 1000000 in
theorem bridge_PieceBoard_new : @Rs.PieceBoard_new = @RsBase.PieceBoard_new := by
  funext a0 a1 a2 a3 a4 a5 a6
  rs_ladder [Rs.PieceBoard_new, RsBase.PieceBoard_new] [] (skip) [Rs.PieceBoard_new, RsBase.PieceBoard_new]

end Arimaa.Gen.Bridge
