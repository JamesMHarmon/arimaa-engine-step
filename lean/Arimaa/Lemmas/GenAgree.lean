import Arimaa.Gen.BitFns
import Arimaa.Impl.Engine

/-!
The refinement proofs are about the hand-written bit helpers.  The agreement theorems (`GenAgreeFrozen`,
`GenAgreeMove`, `GenAgreeCapture`, `GenAgreeResult`; one file per family, so that a property's closure holds only the
agreements it rests on) tie them to the expression-by-expression translation of engine.rs in `Gen/BitFns.lean`,
regenerated from the source on every run: a changed mask, shift, operator or operand in one of the seventeen helpers
breaks the corresponding theorem.
-/
namespace Arimaa
open Gen GameState

/- Each agreement tries `rfl`, then unfolding both sides (callees through their own agreements) and `ac_rfl`, then
   `bitwise_agree`: the source may be rewritten up to associativity / commutativity of the bit operators and, for the
   bitboard-valued helpers, up to any bitwise identity (`x & a | x & b` to `x & (a | b)`); a rewrite of
   `animal_is_on_trap`, `is_their_piece`, `rabbit_at_goal` or `lost_all_rabbits` (a `Bool` or an `Option Terminal`)
   beyond associativity / commutativity breaks its theorem.  While the source is unchanged `rfl` closes the goal and
   the lemmas listed for the fallback go unused, hence `linter.unusedSimpArgs false` in the agreement files. -/

/-- All bitboard-valued helpers, generated and hand-written, are unfolded first: a rewritten helper may call other
helpers than its model does. -/
macro "bitwise_agree" : tactic =>
  `(tactic| (simp only [Gen.Fn.influenced_squares, Gen.Fn.supported_pieces, Gen.Fn.both_player_supported_pieces,
               Gen.Fn.both_player_unsupported_piece_bits, Gen.Fn.can_move_in_direction, Gen.Fn.shift_piece_in_direction,
               Gen.Fn.player_piece_mask, Gen.Fn.trapped_piece_bits, Gen.Fn.curr_player_piece_mask,
               Gen.Fn.opponent_piece_mask, Gen.Fn.threatened_pieces, Gen.Fn.curr_player_non_frozen_pieces,
               influencedSquares, supportedPieces, bothPlayerSupportedPieces, bothPlayerUnsupportedPieceBits,
               canMoveInDirection, shiftPieceInDirection, Board.playerPieceMask, Board.trappedPieceBits,
               currPlayerPieceMask, opponentPieceMask, threatenedPieces, currPlayerNonFrozenPieces]
             apply BitVec.eq_of_getLsbD_eq; intro i hi
             simp only [BitVec.getLsbD_and, BitVec.getLsbD_or, BitVec.getLsbD_xor, BitVec.getLsbD_not]
             grind))

end Arimaa
