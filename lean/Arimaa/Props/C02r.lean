import Arimaa.Props.C02
import Arimaa.Lemmas.RsAgreeStep
import Arimaa.Lemmas.CodeRuleOnly
import Arimaa.Gen.Bridge.PieceBoardState_trapped_piece_bits
import Arimaa.Gen.Bridge.PieceBoard_remove_trapped_pieces
import Arimaa.Gen.Bridge.PieceBoard_take_action

/-!
C02 for the regenerated code (`Gen/Rs.lean`, written from the Rust text on every run).  `C02_code_agrees` lists, as one
obligation, the agreements with the hand model of the functions C02 speaks of, so that a change of the Rust text that
alters behaviour breaks an obligation here without a test having to find the input; a corollary whose hypothesis names
a list the code returned also cites `Code.rule_only` / `Code.offered`.  (written by tools/mkrprops.py)
-/
namespace Arimaa
open GameState Arimaa.Gen.Rs Arimaa.Rt Arimaa.Gen.Bridge Spec

/-- the agreement theorems C02 rests on, about the CURRENT functions, as one obligation -/
theorem C02_code_agrees :
    (∀ (s : GameState) (a : Action), GameState_take_action s a = Res.guard (s.takeActionPanics a) (s.takeAction a)) ∧
    (∀ (b : Board) (sq : Nat) (d : Dir), PieceBoard_take_action b (.move sq d) = Res.guard (sqBitPanics sq) (b.takeMove sq d)) ∧
    (∀ b : Board, PieceBoard_remove_trapped_pieces b = (b.removeTrappedPieces.2, b.removeTrappedPieces.1)) ∧
    (∀ b : Board, PieceBoardState_trapped_piece_bits b = b.trappedPieceBits) :=
  ⟨Code.take_action,
   bridge_PieceBoard_take_action ▸ RsAgree.board_take_action_move,
   bridge_PieceBoard_remove_trapped_pieces ▸ RsAgree.remove_trapped_pieces,
   bridge_PieceBoardState_trapped_piece_bits ▸ RsAgree.trapped_piece_bits⟩

/-- **C02 for the code as it is now**: a step taken from the list the regenerated `valid_actions_no_rep` returned,
applied by the regenerated `take_action`, moves exactly that piece onto the empty neighbour and then removes
exactly the unsupported trap pieces (`Spec.capture (Spec.move ..)`); the new board is well formed -/
theorem C02_code_step_refines (s s' : GameState) (pp : PlayPhase) (h : PlayInv s pp) (l : List Action)
    (hl : GameState_valid_actions_no_rep s = .ok l) (i : Nat) (d : Dir) (ha : Action.move i d ∈ l)
    (ht : GameState_take_action s (.move i d) = .ok s') :
    ∃ c j, absBoard s.board i = some c ∧ nbr i (dirSpec d) = some j ∧ absBoard s.board j = none ∧
      absBoard s'.board = capture (move (absBoard s.board) i j) ∧ WF s'.board := by
  have h1 := Code.rule_only hl
  have h2 := Code.successor ht
  subst h1 h2
  obtain ⟨c, j, hc, hn, hj, hb, _, hw⟩ := C02_refines s pp h i d ha
  exact ⟨c, j, hc, hn, hj, hb, hw⟩

end Arimaa
