-- GENERATED by /verif/tools/gen.py -- do not edit.  Bridge from the current text of `GameState::rabbit_at_goal` to the baseline text.
import Arimaa.Gen.Rs
import Arimaa.Gen.RsBase
import Arimaa.Gen.BridgeLadder

namespace Arimaa.Gen.Bridge
open Arimaa Arimaa.Gen Arimaa.Rt

set_option maxHeartbeats 1000000 in
theorem bridge_GameState_rabbit_at_goal : @Rs.GameState_rabbit_at_goal = @RsBase.GameState_rabbit_at_goal := by
  funext a0 a1
  rs_ladder [Rs.GameState_rabbit_at_goal, RsBase.GameState_rabbit_at_goal] [] (skip) [Rs.GameState_rabbit_at_goal, RsBase.GameState_rabbit_at_goal]

end Arimaa.Gen.Bridge
