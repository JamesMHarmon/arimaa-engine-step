import Arimaa.Lemmas.Diagram
import Arimaa.Lemmas.HashInv
import Arimaa.Lemmas.HashPlace

/-!
C08 — the position hash depends only on board, side to move, step and push/pull status.

`HashOk s` says: if `s` is in the play phase with play-phase record `pp`, then
`s.hash = Zobrist::from_piece_board(s.board, s.p1Turn, pp.step)` (`zFromPieceBoard`, the from-scratch
hash).  The proofs are XOR algebra over arbitrary boards: no legality or well-formedness of the
position is used for steps and passes.
-/
namespace Arimaa
open Gen

/-- Incremental = from scratch, one step.  For EVERY play-phase state whose hash is the from-scratch
hash, every square and every direction (legal or not, with or without capture, including the step
that ends the turn), the state after `move_piece` is a play-phase state whose hash is the
from-scratch hash of its own board, side and step. -/
theorem C08_move (s : GameState) (hplay : s.isPlay = true) (h : HashOk s) (sq : Nat) (d : Dir) :
    ∃ pp', (s.movePiece sq d).phase = .play pp' ∧
      (s.movePiece sq d).hash =
        zFromPieceBoard (s.movePiece sq d).board (s.movePiece sq d).p1Turn pp'.step := by
  obtain ⟨h', hp'⟩ := HashOk_takeAction s h hplay (.move sq d) rfl
  exact HashOk_scratch h' hp'

/-- Incremental = from scratch, pass.  Same for `pass` (turn change by pass). -/
theorem C08_pass (s : GameState) (hplay : s.isPlay = true) (h : HashOk s) :
    ∃ pp', s.pass.phase = .play pp' ∧
      s.pass.hash = zFromPieceBoard s.pass.board s.pass.p1Turn pp'.step := by
  obtain ⟨h', hp'⟩ := HashOk_takeAction s h hplay .pass rfl
  exact HashOk_scratch h' hp'

/-- A position parsed from text is a play-phase state at step 0 whose hash, `initHash` and single
history entry are the from-scratch hash of the parsed board and side. -/
theorem C08_parse (t : List Char) (s : GameState) (h : parseState t = .ok s) :
    HashOk s ∧ s.isPlay = true ∧ s.hash = zFromPieceBoard s.board s.p1Turn 0 ∧
      s.phase = .play (PlayPhase.initial s.hash [s.hash]) := by
  obtain ⟨h1, h2⟩ := parseState_hash_phase t s h
  refine ⟨(HashOk_play s _ h2).mpr h1, (GameState.isPlay_iff s).mpr ⟨_, h2⟩, h1, h2⟩

/-- Incremental = from scratch, all paths.  From a play-phase state whose hash is the from-scratch
hash, after ANY list of step/pass actions (any squares and directions, captures, turn changes by
pass or by fourth step), every state along the way is a play-phase state whose hash equals the
from-scratch hash of its own board, side to move and step. -/
theorem C08_incremental_eq_scratch (s : GameState) (hplay : s.isPlay = true) (h : HashOk s)
    (as : List Action) (has : ∀ a ∈ as, a.isPlace = false) (k : Nat) :
    ∃ pp', ((as.take k).foldl GameState.takeAction s).phase = .play pp' ∧
      ((as.take k).foldl GameState.takeAction s).hash =
        zFromPieceBoard ((as.take k).foldl GameState.takeAction s).board
          ((as.take k).foldl GameState.takeAction s).p1Turn pp'.step := by
  obtain ⟨h', hp'⟩ := HashOk_run s h hplay (as.take k) (fun a ha => has a (List.mem_of_mem_take ha))
  exact HashOk_scratch h' hp'

/-- The same from any position that parses from text (no side condition on the diagram). -/
theorem C08_incremental_from_parse (t : List Char) (s : GameState) (hparse : parseState t = .ok s)
    (as : List Action) (has : ∀ a ∈ as, a.isPlace = false) (k : Nat) :
    ∃ pp', ((as.take k).foldl GameState.takeAction s).phase = .play pp' ∧
      ((as.take k).foldl GameState.takeAction s).hash =
        zFromPieceBoard ((as.take k).foldl GameState.takeAction s).board
          ((as.take k).foldl GameState.takeAction s).p1Turn pp'.step :=
  C08_incremental_eq_scratch s (C08_parse t s hparse).2.1 (C08_parse t s hparse).1 as has k

/-- The transposition hash of a play-phase state satisfying the invariant is the from-scratch hash of
board, side and step combined with the table value of the pending push/pull
(`board_state_hash_with_push_pull_state`). -/
theorem C08_transposition (s : GameState) (pp : PlayPhase) (hp : s.phase = .play pp) (h : HashOk s) :
    s.transpositionHash = zWithPPS (zFromPieceBoard s.board s.p1Turn pp.step) pp.pps := by
  unfold GameState.transpositionHash
  rw [hp]
  simp only
  rw [(HashOk_play s pp hp).mp h]

/-- Start-of-turn hashes.  After a turn ends — by `pass`, or by `move_piece` as the fourth step
(`pp.step ≥ 3`) — the new play-phase record is at step 0, its `initHash` and the head of its
`hist` are the new state's hash, which (under the invariant) is the from-scratch hash of the new
board and side at step 0; the tail of `hist` is the old history (emptied by a capture during the
turn).  A step that does not end the turn keeps `initHash`, and keeps the history or empties it
(capture). -/
theorem C08_history_head (s : GameState) (pp : PlayPhase) (hp : s.phase = .play pp) (h : HashOk s) :
    (∃ pp', s.pass.phase = .play pp' ∧ pp'.step = 0 ∧ pp'.initHash = s.pass.hash ∧
        pp'.hist = s.pass.hash :: (if pp.trapped then [] else pp.hist) ∧
        s.pass.hash = zFromPieceBoard s.pass.board s.pass.p1Turn 0) ∧
    (∀ sq d, pp.step ≥ 3 →
      ∃ pp', (s.movePiece sq d).phase = .play pp' ∧ pp'.step = 0 ∧
        pp'.initHash = (s.movePiece sq d).hash ∧
        pp'.hist = (s.movePiece sq d).hash :: (if (s.board.takeMove sq d).2 then [] else pp.hist) ∧
        (s.movePiece sq d).hash =
          zFromPieceBoard (s.movePiece sq d).board (s.movePiece sq d).p1Turn 0) ∧
    (∀ sq d, pp.step < 3 →
      ∃ pp', (s.movePiece sq d).phase = .play pp' ∧ pp'.initHash = pp.initHash ∧
        pp'.hist = (if (s.board.takeMove sq d).2 then [] else pp.hist)) := by
  have hh := (HashOk_play s pp hp).mp h
  refine ⟨?_, fun sq d hlast => ?_, fun sq d hmid => ?_⟩
  · rw [pass_turnEnd s pp hp hh]
    exact ⟨_, rfl, rfl, rfl, rfl, rfl⟩
  · rw [movePiece_turnEnd s pp hp hh sq d hlast]
    exact ⟨_, rfl, rfl, rfl, rfl, rfl⟩
  · rw [GameState.movePiece_lt3 s pp hp sq d hmid]
    exact ⟨_, rfl, rfl, rfl⟩

/-- Two play-phase states satisfying the invariant with the same board, side to move and step have
equal `hash` fields — which is what both `GameState == GameState` and `Hash for GameState` of the
crate look at — and, with the same pending push/pull, equal transposition hashes. -/
theorem C08_eq_of_same (s s' : GameState) (pp pp' : PlayPhase) (hp : s.phase = .play pp)
    (hp' : s'.phase = .play pp') (h : HashOk s) (h' : HashOk s') (hb : s.board = s'.board)
    (hside : s.p1Turn = s'.p1Turn) (hstep : pp.step = pp'.step) :
    s.hash = s'.hash ∧ (pp.pps = pp'.pps → s.transpositionHash = s'.transpositionHash) := by
  have e : s.hash = s'.hash := by
    rw [(HashOk_play s pp hp).mp h, (HashOk_play s' pp' hp').mp h', hb, hside, hstep]
  refine ⟨e, fun hpps => ?_⟩
  rw [C08_transposition s pp hp h, C08_transposition s' pp' hp' h', hb, hside, hstep, hpps]

/-- One placement (setup).  `SetupHashOk s` is the setup-phase form of the invariant:
`s.hash = INITIAL ^^^ (side constant) ^^^ (piece values of the board)`, no step constant.  Under the
explicit hypothesis `PlaceReady s` on `s.board.placementBit` — it is a single on-board bit, not in
`board.all`; type boards and gold board lie inside `all`; on the last square of a side's home rows
that side is to move (all of these are setup invariants: `placeReady_of_shape`,
`Lemmas/SetupStart.lean`) — a placement either keeps the setup invariant (setup continues), or (last
Silver placement) yields a play-phase state, Gold to move, step 0, whose hash, `initHash` and only
history entry are the from-scratch hash of its board. -/
theorem C08_place (s : GameState) (hs : SetupHashOk s) (hr : PlaceReady s) (p : Piece) :
    (s.board.placementBit ≠ LAST_P2_PLACEMENT_MASK →
      (s.place p).phase = .place ∧ SetupHashOk (s.place p)) ∧
    (s.board.placementBit = LAST_P2_PLACEMENT_MASK →
      (s.place p).p1Turn = true ∧
      (s.place p).hash = zFromPieceBoard (s.place p).board true 0 ∧
      (s.place p).phase = .play (PlayPhase.initial (s.place p).hash [(s.place p).hash])) :=
  setupHashOk_place s hs hr p

/-- A finished setup hashes like the same position parsed from text.  If `ps` is a non-empty list of
placements from `GameState::initial()` such that `PlaceReady` holds before each placement and
exactly the last one fills the last Silver home square, then the final state is a play-phase state
with the from-scratch hash; and any text that parses to the same board with Gold to move gives a
state with the same hash and the same play-phase record (`initHash`, history, step, status). -/
theorem C08_setup_eq_parse (ps : List Piece) (hne : ps ≠ [])
    (hready : ∀ k, k < ps.length → PlaceReady ((ps.take k).foldl GameState.place GameState.initial))
    (hlast : ∀ k, k < ps.length →
      (((ps.take k).foldl GameState.place GameState.initial).board.placementBit =
        LAST_P2_PLACEMENT_MASK ↔ k + 1 = ps.length)) :
    HashOk (ps.foldl GameState.place GameState.initial) ∧
    (ps.foldl GameState.place GameState.initial).isPlay = true ∧
    ∀ (t : List Char) (s' : GameState), parseState t = .ok s' →
      s'.board = (ps.foldl GameState.place GameState.initial).board → s'.p1Turn = true →
      s'.hash = (ps.foldl GameState.place GameState.initial).hash ∧
      s'.phase = (ps.foldl GameState.place GameState.initial).phase := by
  obtain ⟨ht, hh, hph⟩ := foldl_place_hash ps GameState.initial setupHashOk_initial hne hready hlast
  refine ⟨(HashOk_play _ _ hph).mpr (by rw [ht]; exact hh), (GameState.isPlay_iff _).mpr ⟨_, hph⟩, ?_⟩
  intro t s' hparse hb hside
  obtain ⟨_, _, h1, h2⟩ := C08_parse t s' hparse
  have e : s'.hash = (ps.foldl GameState.place GameState.initial).hash := by
    rw [h1, hh, hb, hside]
  exact ⟨e, by rw [h2, hph, e]⟩

/-- the setup of both sides, in the code's placement order (a2..h2, a1..h1, then a8..h8, a7..h7:
Silver's officers stand on the eighth rank) -/
private def exSetup : List Piece :=
  [.rabbit, .rabbit, .rabbit, .rabbit, .rabbit, .rabbit, .rabbit, .rabbit,
   .cat, .dog, .horse, .camel, .elephant, .horse, .dog, .cat,
   .cat, .dog, .horse, .camel, .elephant, .horse, .dog, .cat,
   .rabbit, .rabbit, .rabbit, .rabbit, .rabbit, .rabbit, .rabbit, .rabbit]

private theorem exSetup_ready : exSetup ≠ [] ∧
    (∀ k, k < exSetup.length →
      PlaceReady ((exSetup.take k).foldl GameState.place GameState.initial)) ∧
    (∀ k, k < exSetup.length →
      (((exSetup.take k).foldl GameState.place GameState.initial).board.placementBit =
        LAST_P2_PLACEMENT_MASK ↔ k + 1 = exSetup.length)) := by
  decide +kernel

set_option maxRecDepth 100000 in
/-- the hypotheses of `C08_setup_eq_parse` hold for a concrete full setup -/
example : exSetup ≠ [] ∧
    (∀ k, k < exSetup.length →
      PlaceReady ((exSetup.take k).foldl GameState.place GameState.initial)) ∧
    (∀ k, k < exSetup.length →
      (((exSetup.take k).foldl GameState.place GameState.initial).board.placementBit =
        LAST_P2_PLACEMENT_MASK ↔ k + 1 = exSetup.length)) :=
  exSetup_ready

-- A term expected at type `HashOk s` makes the elaborator unfold `HashOk` to look for a binder, and
-- with it evaluate the phase of a concrete `s` (here: the whole setup).
attribute [local irreducible] HashOk

private theorem exSetup_play : HashOk (exSetup.foldl GameState.place GameState.initial) ∧
    (exSetup.foldl GameState.place GameState.initial).isPlay = true :=
  (C08_setup_eq_parse exSetup exSetup_ready.1 exSetup_ready.2.1 exSetup_ready.2.2).imp_right And.left

set_option maxRecDepth 100000 in
example : HashOk (exSetup.foldl GameState.place GameState.initial) ∧
    (exSetup.foldl GameState.place GameState.initial).isPlay = true :=
  exSetup_play

private def exText : List Char :=
  "7s\n +-----------------+\n8| r r r r r r r r |\n7| d h c e m c h d |\n6|     x     x     |\n5|                 |\n4|         E       |\n3|     x     x     |\n2| D H C   M C H D |\n1| R R R R R R R R |\n +-----------------+\n   a b c d e f g h\n".toList

set_option maxRecDepth 100000 in
/-- a concrete text parses, so `C08_parse` / `C08_incremental_from_parse` are not vacuous -/
example : (match parseState exText with
    | .ok s => !s.p1Turn && s.moveNo == 7 && s.board.elephants == (sqBit 36 ||| sqBit 11)
    | _ => false) = true := by
  -- the literal is read as the list of its characters: evaluating `String.toList` decodes UTF-8
  -- from a byte array, which in the kernel is quadratic in the length
  generalize h : exText = l
  cases h.symm.trans (String.toList_ofList : exText = _)
  decide +kernel

/-- moves (including an illegal one and a capture-free fourth step) and a pass from the start of play
after the concrete setup stay within `C08_incremental_eq_scratch`'s hypotheses -/
example : ∀ a ∈ [Action.move 51 .up, .move 43 .up, .pass, .move 12 .down, .move 0 .left,
    .move 20 .down, .move 28 .down], a.isPlace = false := by decide

set_option maxRecDepth 100000 in
/-- one concrete path (setup, three Gold steps, pass, four Silver steps incl. the turn-ending fourth):
the hash equation at its end is the invariant carried along the path (`HashOk_run`); side and step
by kernel evaluation -/
example :
    let s := [Action.move 51 .up, .move 43 .up, .move 35 .up, .pass, .move 12 .down, .move 20 .down,
      .move 11 .down, .move 19 .down].foldl GameState.takeAction
        (exSetup.foldl GameState.place GameState.initial)
    s.hash = zFromPieceBoard s.board s.p1Turn s.step ∧ s.p1Turn = true ∧ s.step = 0 := by
  refine ⟨?_, by decide +kernel⟩
  obtain ⟨h, hp⟩ := HashOk_run _ exSetup_play.1 exSetup_play.2 [Action.move 51 .up, .move 43 .up,
    .move 35 .up, .pass, .move 12 .down, .move 20 .down, .move 11 .down, .move 19 .down] (by decide)
  obtain ⟨pp, hpp, hs⟩ := HashOk_scratch h hp
  rw [hs, GameState.step, hpp]

end Arimaa
