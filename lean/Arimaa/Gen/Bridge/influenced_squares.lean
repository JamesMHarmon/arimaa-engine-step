-- GENERATED by /verif/tools/gen.py -- do not edit.  Bridge from the current text of `influenced_squares` to the baseline text.
import Arimaa.Gen.Rs
import Arimaa.Gen.RsBase
import Arimaa.Gen.BridgeLadder

namespace Arimaa.Gen.Bridge
open Arimaa Arimaa.Gen Arimaa.Rt

set_option maxHeartbeats 1000000 in
theorem bridge_influenced_squares : @Rs.influenced_squares = @RsBase.influenced_squares := by
  funext a0
  rs_ladder [Rs.influenced_squares, RsBase.influenced_squares] [] (skip) [Rs.influenced_squares, RsBase.influenced_squares]

end Arimaa.Gen.Bridge
