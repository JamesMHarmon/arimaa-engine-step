-- GENERATED by /verif/tools/gen.py -- do not edit.  Bridge from the current text of `convert_char_to_piece` to the baseline text.
import Arimaa.Gen.Rs
import Arimaa.Gen.RsBase
import Arimaa.Gen.BridgeLadder

namespace Arimaa.Gen.Bridge
open Arimaa Arimaa.Gen Arimaa.Rt

set_option maxHeartbeats 1000000 in
theorem bridge_convert_char_to_piece : @Rs.convert_char_to_piece = @RsBase.convert_char_to_piece := by
  funext a0
  rs_ladder [Rs.convert_char_to_piece, RsBase.convert_char_to_piece] [] (skip) [Rs.convert_char_to_piece, RsBase.convert_char_to_piece]

end Arimaa.Gen.Bridge
