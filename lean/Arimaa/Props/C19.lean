import Arimaa.Lemmas.NoPanic

/-!
C19 — No public query or offered action panics on a reachable state.

Property text: "On every reachable state, listing actions (with or without repetition rules), asking
for the result, the pass and move availability, the hash, the printed form, the capture preview of
any offered action, the boards of earlier steps of the turn, and applying any offered action all
return normally, also when integer-overflow and shift-overflow checks are enabled."

`Impl/Panics.lean` puts an executable guard next to every model function whose Rust original can
panic (`panics_q s = true` exactly when the code panics; validated against the crate under
`catch_unwind` on crafted unreachable states).  The theorems below say that every guard is `false`
on reachable states.

* reachable (`NoPanic.Reach`): closure of `GameState::initial()` and of every parsed position under
  the rule-only list `valid_actions_no_rep()`, which contains the offered list `valid_actions()`;
* "offered action" is taken at its largest: every action of `valid_actions_no_rep()`;
* `current_step` and `piece_board_for_step` are play-phase queries: in setup they panic by design
  (DESIGN section 5);
* finding F4: `move_number + 1` overflows at `usize::MAX`; the theorems carry `moveNo < usizeMax`
  and `C19_overflow_point` shows the excluded point does panic.
-/
namespace Arimaa
open GameState NoPanic

/-- **Play phase.**  On a play-phase state with the invariants of reachable states — `PlayInv`:
well-formed board, the push/pull status names an on-board empty square, `step ≤ 3`; a hashable status
(no pulling rabbit, no pushed elephant); move number below `usize::MAX` — none of the queries
`valid_actions`, `valid_actions_no_rep`, `is_terminal`, `has_move`, `can_pass(false/true)`,
`transposition_hash`, `Display`, `current_step` panics; for every action of the rule-only list the
capture preview, `take_action` and printing the action do not panic; `piece_board_for_step(i)` does
not panic for `i ≤ step` (and does, by an out-of-range index, for every `i > step`). -/
theorem C19_no_panic_play (s : GameState) (pp : PlayPhase) (h : PlayInv s pp)
    (hh : StatusHashable pp.pps) (hm : s.moveNo < usizeMax) :
    (panics_valid_actions s = false ∧ panics_valid_actions_no_rep s = false ∧
      panics_is_terminal s = false ∧ panics_has_move s = false ∧
      panics_can_pass s false = false ∧ panics_can_pass s true = false ∧
      panics_transposition_hash s = false ∧ panics_display s = false ∧
      panics_current_step s = false) ∧
    (∀ a ∈ s.validActionsNoRep,
      panics_preview s a = false ∧ panics_take s a = false ∧ showActionPanics a = false) ∧
    (∀ i, i ≤ pp.step → panics_pbs s i = false) ∧
    (∀ i, pp.step < i → panics_pbs s i = true) := by
  refine ⟨⟨validActions_Panics_false s pp h true, validActions_Panics_false s pp h false,
    isTerminalPanics_false s pp h, hasMovePanics_false s pp h, canPassPanics_false s pp h false,
    canPassPanics_false s pp h true, transpositionHashPanics_false s pp h hh,
    showStatePanics_false s, stepPanics_false s pp h.phase⟩, ?_,
    fun i hi => (pieceBoardForStepPanics_eq s pp h.phase i).trans (decide_eq_false (Nat.not_lt.mpr hi)),
    fun i hi => (pieceBoardForStepPanics_eq s pp h.phase i).trans (decide_eq_true hi)⟩
  intro a ha
  rcases GameState.step_or_pass_of_mem s pp h.phase false a ha with rfl | ⟨i, d, rfl⟩
  · exact ⟨rfl, passPanics_false s pp h hm, rfl⟩
  · obtain ⟨_, _, hi, _⟩ := offered_step_facts s pp h i d ha
    exact ⟨(trappedAnimalForActionPanics_eq s _).trans (sqBitPanics_false hi),
      movePiecePanics_false s pp h i d hi hm, showActionPanics_false fun _ _ e => by cases e; exact hi⟩

/-- every entry of `panicReport` is `false` under the same hypotheses -/
theorem C19_panicReport_clean (s : GameState) (pp : PlayPhase) (h : PlayInv s pp)
    (hh : StatusHashable pp.pps) (hm : s.moveNo < usizeMax) :
    ∀ q ∈ panicReport s, q.2 = false := by
  obtain ⟨⟨h1, h2, h3, h4, h5, h6, h7, h8, h9⟩, _⟩ := C19_no_panic_play s pp h hh hm
  simp only [panicReport, List.mem_cons, List.not_mem_nil, or_false, forall_eq_or_imp, forall_eq]
  exact ⟨h1, h2, h3, h4, h5, h6, h7, h8, h9⟩

/-- **Setup phase.**  After fewer than 32 offered placements from the initial state, the queries
`valid_actions`, `valid_actions_no_rep`, `is_terminal`, `has_move`, `can_pass`,
`transposition_hash` and `Display` do not panic, and neither do `take_action`, the capture preview
and printing for any offered placement (`placement_bit` finds a free square, so `first_set_bit`
never shifts by 64). -/
theorem C19_no_panic_setup {ps : List Piece} {s : GameState} (hr : SetupRun ps s) (hlt : ps.length < 32) :
    (panics_valid_actions s = false ∧ panics_valid_actions_no_rep s = false ∧
      panics_is_terminal s = false ∧ panics_has_move s = false ∧
      panics_can_pass s false = false ∧ panics_can_pass s true = false ∧
      panics_transposition_hash s = false ∧ panics_display s = false) ∧
    (∀ a ∈ s.validActionsNoRep,
      panics_preview s a = false ∧ panics_take s a = false ∧ showActionPanics a = false) := by
  have hs := setupRun_shape hr hlt
  obtain ⟨h1, h2, h3, h4, h5, h6⟩ := place_queries_no_panic s hs.phase
  refine ⟨⟨h1, h2, h3, h4 _, h5 _, h5 _, h6, showStatePanics_false s⟩, ?_⟩
  intro a ha
  obtain ⟨p, rfl, _⟩ := place_of_mem_noRep s hs.phase a ha
  exact ⟨rfl, placePanics_false_setup hs p, rfl⟩

/-- **Setup has no turn steps.**  `current_step` and `piece_board_for_step(i)` (every `i`) DO panic
in the place phase ("Expected phase to be PlayPhase"): the property's "boards of earlier steps of
the turn" is a play-phase query. -/
theorem C19_setup_step_queries_panic_by_design {ps : List Piece} {s : GameState} (hr : SetupRun ps s)
    (hlt : ps.length < 32) : panics_current_step s = true ∧ ∀ i, panics_pbs s i = true :=
  place_step_queries_panic s (setupRun_shape hr hlt).phase

/-- **The invariants are those of reachable states**: a reachable state is a setup state after fewer
than 32 offered placements or a play-phase state satisfying `PlayInv` with a hashable status; the
bundle holds after the last placement and after parsing, and every action of the rule-only list
preserves it (the hashable part is `Spec.State.next_hashable`). -/
theorem C19_reachable_invariants :
    (∀ s, Reach s → (∃ ps, SetupRun ps s ∧ ps.length < 32) ∨ (∃ pp, PlayInv s pp ∧ StatusHashable pp.pps)) ∧
    (∀ ps s, SetupRun ps s → ps.length = 32 → ∃ pp, PlayInv s pp ∧ StatusHashable pp.pps) ∧
    (∀ t s, parseState t = .ok s → ∃ pp, PlayInv s pp ∧ StatusHashable pp.pps) ∧
    (∀ s pp a, PlayInv s pp → StatusHashable pp.pps → a ∈ s.validActionsNoRep →
      ∃ pp', PlayInv (s.takeAction a) pp' ∧ StatusHashable pp'.pps) :=
  ⟨fun _ hr => (reach_cases hr).imp_right panicInv_and,
    fun _ _ hr h32 => panicInv_and (setupRun_panicInv hr h32),
    fun t s hp => panicInv_and (panicInv_parsed t s hp),
    fun s pp a h hh ha => panicInv_and (panicInv_step s pp ⟨h, hh⟩ a ha)⟩

/-- **C19.**  On every reachable state whose move number is below `usize::MAX` (finding F4), in
setup and in play: listing actions with or without repetition rules, `is_terminal`, `has_move`,
`can_pass`, `transposition_hash` and `Display` do not panic; for every action of the rule-only list
(hence for every offered action) the capture preview and `take_action` do not panic (nor does
printing the action); in the play phase `current_step` and `piece_board_for_step(i)` for every
`i ≤ current_step` do not panic. -/
theorem C19_no_panic (s : GameState) (hr : Reach s) (hm : s.moveNo < usizeMax) :
    (panics_valid_actions s = false ∧ panics_valid_actions_no_rep s = false ∧
      panics_is_terminal s = false ∧ panics_has_move s = false ∧
      panics_can_pass s false = false ∧ panics_can_pass s true = false ∧
      panics_transposition_hash s = false ∧ panics_display s = false) ∧
    (∀ a ∈ s.validActionsNoRep,
      panics_preview s a = false ∧ panics_take s a = false ∧ showActionPanics a = false) ∧
    (∀ a ∈ s.validActions, panics_preview s a = false ∧ panics_take s a = false) ∧
    (∀ pp, s.phase = .play pp →
      panics_current_step s = false ∧ ∀ i, i ≤ pp.step → panics_pbs s i = false) := by
  have offered : (∀ a ∈ s.validActionsNoRep,
        panics_preview s a = false ∧ panics_take s a = false ∧ showActionPanics a = false) →
      ∀ a ∈ s.validActions, panics_preview s a = false ∧ panics_take s a = false :=
    fun ha a hv => ⟨(ha a (mem_noRep_of_mem_validActions s a hv)).1, (ha a (mem_noRep_of_mem_validActions s a hv)).2.1⟩
  rcases reach_cases hr with ⟨ps, hsr, hlt⟩ | ⟨pp, hpi⟩
  · obtain ⟨hq, ha⟩ := C19_no_panic_setup hsr hlt
    refine ⟨hq, ha, offered ha, ?_⟩
    intro pp hph
    rw [(setupRun_shape hsr hlt).phase] at hph
    cases hph
  · obtain ⟨⟨h1, h2, h3, h4, h5, h6, h7, h8, h9⟩, ha, hb, _⟩ :=
      C19_no_panic_play s pp hpi.play hpi.hashable hm
    refine ⟨⟨h1, h2, h3, h4, h5, h6, h7, h8⟩, ha, offered ha, ?_⟩
    intro pp' hph
    have : pp' = pp := by rw [hpi.play.phase] at hph; injection hph with e; exact e.symm
    subst this
    exact ⟨h9, hb⟩

/-- the successor of a reachable state by an offered action is reachable (so `C19_no_panic` applies
along every game) -/
theorem C19_reach_closed (s : GameState) (hr : Reach s) (a : Action) (ha : a ∈ s.validActions) :
    Reach (s.takeAction a) := hr.step_offered ha

/-- **Finding F4 (the excluded point).**  At `moveNo = usize::MAX` with Silver to move the guard of
`take_action` is TRUE for a pass and for a fourth step (`move_number + 1` overflows); the pass is in
the rule-only list as soon as one step was made and no push is pending. -/
theorem C19_overflow_point (s : GameState) (pp : PlayPhase) (hph : s.phase = .play pp)
    (hmax : s.moveNo = usizeMax) (hsilver : s.p1Turn = false) :
    panics_take s .pass = true ∧
    (pp.step ≥ 3 → ∀ sq d, panics_take s (.move sq d) = true) ∧
    (pp.step ≥ 1 → pp.pps.isMustCompletePush = false → Action.pass ∈ s.validActionsNoRep) := by
  refine ⟨?_, ?_, ?_⟩
  · simp [panics_take, takeActionPanics, passPanics_eq s pp hph, hsilver, hmax]
  · intro h3 sq d
    simp [panics_take, takeActionPanics, movePiecePanics_eq s pp hph, hsilver, hmax, h3]
  · intro h1 hm
    rw [validActionsNoRep, pass_mem_validActions__iff, canPass_play s pp hph, hm]
    simpa using h1

/-- **The capture preview panics only for an off-board source square** — on EVERY state, reachable
or not: the `unwrap` in `trapped_animal_for_action` cannot fail (a trapped bit is a bit of
`all_pieces`), so no trap-related hypothesis (`NoHanging`) is needed. -/
theorem C19_preview_sites (s : GameState) (a : Action) :
    panics_preview s a = (match a with | .move sq _ => decide (sq ≥ 64) | _ => false) :=
  trappedAnimalForActionPanics_eq s a

/-- **Printing a state never panics**, on any state. -/
theorem C19_display_total (s : GameState) : panics_display s = false := showStatePanics_false s

/-- **The guards do fire off the invariants** (each invariant clause is needed): a pushed elephant
or a pulling rabbit in the status panics the hash; a status square `≥ 64` panics the listing; four
or more recorded boards (`step ≥ 4`) panic `can_pass(true)`; a step from square `≥ 64` panics preview and
`take_action`.  (A placement on a board without a free home square: an `example` below.) -/
theorem C19_guards_fire (s : GameState) (pp : PlayPhase) (hph : s.phase = .play pp) :
    (∀ q, pp.pps = .mustCompletePush q .elephant → panics_transposition_hash s = true) ∧
    (∀ q, pp.pps = .possiblePull q .rabbit → panics_transposition_hash s = true) ∧
    (∀ q x, 64 ≤ q → pp.pps = .possiblePull q x →
      panics_valid_actions s = true ∧ panics_valid_actions_no_rep s = true) ∧
    (∀ q v, 64 ≤ q → pp.pps = .mustCompletePush q v →
      panics_valid_actions s = true ∧ panics_valid_actions_no_rep s = true) ∧
    (4 ≤ pp.step → pp.pps.isMustCompletePush = false → panics_can_pass s true = true) ∧
    (∀ sq d, 64 ≤ sq → panics_preview s (.move sq d) = true ∧ panics_take s (.move sq d) = true) := by
  refine ⟨?_, ?_, ?_, ?_, ?_, ?_⟩
  · intro q hq
    rw [panics_transposition_hash, transpositionHashPanics_eq s pp hph, hq]; rfl
  · intro q hq
    rw [panics_transposition_hash, transpositionHashPanics_eq s pp hph, hq]; rfl
  · intro q x h64 hq
    simp [panics_valid_actions, panics_valid_actions_no_rep, validActionsPanics, validActionsNoRepPanics,
      validActions_Panics, hph, hq, PPS.isMustCompletePush, pullExtendPanics, panic_eq, h64]
  · intro q v h64 hq
    simp [panics_valid_actions, panics_valid_actions_no_rep, validActionsPanics, validActionsNoRepPanics,
      validActions_Panics, hph, hq, PPS.isMustCompletePush, mustCompletePushActionsPanics, panic_eq, h64]
  · intro h4 hm
    rw [panics_can_pass, canPassPanics_eq s pp hph, hm]; simpa using h4
  · intro sq d h64
    constructor
    · rw [C19_preview_sites]; simpa using h64
    · simp [panics_take, takeActionPanics, movePiecePanics_eq s pp hph, h64]

/-- **The repetition-filter guard ranges over the right list**: `rawActions` of `Impl/Panics.lean`
is exactly the vector `valid_actions_` holds before `remove_passing_like_actions`. -/
theorem C19_guard_list (s : GameState) (pp : PlayPhase) (hph : s.phase = .play pp) (r : Bool) :
    s.validActions_ r =
      if r then s.removePassingLikeActions pp (s.rawActions pp r) else s.rawActions pp r :=
  validActions__eq_raw s pp hph r

/-- Gold elephant just stepped d4→d5 (bit 35 → 27); Silver rabbit on d3 (bit 43) can be pulled to d4;
one rabbit each at home; one step made, Gold to move -/
def exBoardC19 : Board :=
  Board.new (sqBit 27 ||| sqBit 60) (sqBit 27) 0 0 0 0 (sqBit 43 ||| sqBit 60 ||| sqBit 3)

def exPlayC19 : PlayPhase :=
  { prev := [exBoardC19], pps := .possiblePull 35 .elephant, initHash := 0, hist := [0], trapped := false }

def exC19 : GameState :=
  { p1Turn := true, moveNo := 2, hash := 1, board := exBoardC19, phase := .play exPlayC19 }

theorem exBoardC19_wf : WF exBoardC19 := wf_of_wfWords _ (by decide +kernel)

theorem exC19_playInv : PlayInv exC19 exPlayC19 :=
  ⟨rfl, exBoardC19_wf, ⟨by decide, by decide +kernel⟩, by decide⟩

/-- the hypotheses of `C19_no_panic_play` are satisfiable, with a pending status and `step > 0` -/
example : PlayInv exC19 exPlayC19 ∧ StatusHashable exPlayC19.pps ∧ exC19.moveNo < usizeMax ∧
    exPlayC19.step = 1 :=
  ⟨exC19_playInv, by simp [exPlayC19, StatusHashable], by decide, rfl⟩

/-- … and on that state every guard evaluates to `false`, for every listed action too (the list
contains the pull `d3n`, the pass, and own steps) -/
example : (panicReport exC19).all (fun q => !q.2) = true := by decide +kernel
example : exC19.validActionsNoRep.all (fun a => !panics_preview exC19 a && !panics_take exC19 a) = true := by
  rw [List.all_eq_true]
  intro a ha
  obtain ⟨h1, h2, _⟩ :=
    (C19_no_panic_play exC19 exPlayC19 exC19_playInv (fun h => nomatch h) (by decide)).2.1 a ha
  rw [h1, h2]; rfl
example : Action.move 43 .up ∈ exC19.validActionsNoRep ∧ Action.pass ∈ exC19.validActionsNoRep := by
  decide +kernel
example : panics_pbs exC19 0 = false ∧ panics_pbs exC19 1 = false ∧ panics_pbs exC19 2 = true := by
  decide

example : Reach GameState.initial := Reach.initial
example : ∃ s, Reach s ∧ ∃ pp, s.phase = .play pp := ⟨_, Reach.parsed "2g".toList _ rfl, _, rfl⟩
example : SetupRun [] GameState.initial ∧ ([] : List Piece).length < 32 := ⟨SetupRun.init, by decide⟩
example : (GameState.initial.validActionsNoRep.all
    (fun a => !panics_take GameState.initial a)) = true := by
  rw [List.all_eq_true]
  intro a ha
  rw [((C19_no_panic_setup SetupRun.init (by decide)).2 a ha).2.1]; rfl
example : panics_current_step GameState.initial = true := rfl

/-- unreachable states on which single guards are `true` -/
example : panics_transposition_hash
    { exC19 with phase := .play { exPlayC19 with pps := .mustCompletePush 35 .elephant } } = true := by
  decide +kernel
example : panics_transposition_hash
    { exC19 with phase := .play { exPlayC19 with pps := .possiblePull 35 .rabbit } } = true := by
  decide +kernel
example : panics_valid_actions
    { exC19 with phase := .play { exPlayC19 with pps := .possiblePull 64 .elephant } } = true := by
  decide +kernel
example : panics_can_pass
    { exC19 with phase := .play { exPlayC19 with prev := List.replicate 4 exBoardC19 } } true = true := by
  decide +kernel
/-- four recorded boards and no capture: `has_move` reaches `is_passing_like_action` → `STEP_VALUES[4]` -/
example : panics_is_terminal
    { exC19 with phase := .play { exPlayC19 with prev := List.replicate 4 exBoardC19, pps := .none } } = true := by
  decide +kernel
example : panics_take exC19 (.move 64 .up) = true ∧ panics_preview exC19 (.move 64 .up) = true := by
  decide +kernel
/-- a placement in the play phase on a board whose home squares are all taken: `first_set_bit(0)` -/
example : panics_take { exC19 with board := Board.new 0xffff000000000000#64 0 0 0 0 0 0xffff00000000ffff#64 }
    (.place .cat) = true := by decide +kernel
/-- F4: Silver passes at `usize::MAX` -/
example : panics_take { exC19 with p1Turn := false, moveNo := usizeMax } .pass = true := by decide +kernel
example : panics_take { exC19 with p1Turn := false, moveNo := usizeMax - 1 } .pass = false := by decide +kernel
/-- a step of an enemy piece while the status names square 200: `move_can_be_counted_as_pull` shifts by 200 -/
example : panics_take { exC19 with phase := .play { exPlayC19 with pps := .possiblePull 200 .elephant } }
    (.move 43 .up) = true := by decide +kernel
/-- `Square::row` / `Square::new` (notation; not reachable from `GameState` queries) -/
example : sqRowPanics 71 = false ∧ sqRowPanics 72 = true ∧ sqNewPanics '`' 1 = true ∧
    sqNewPanics 'a' 9 = true ∧ sqNewPanics 'h' 8 = false := by decide

end Arimaa
