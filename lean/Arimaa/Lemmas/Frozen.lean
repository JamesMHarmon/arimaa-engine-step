import Arimaa.Lemmas.Abs
-- Not used below: imported so that every property resting on these lemmas has the agreement of the
-- functions they are about with the translated source in its closure.
import Arimaa.Lemmas.GenAgreeFrozen

/-!
Influence, support, threat and freezing pointwise.  Here and in `Dirs`, `Types` the right-hand side of a lemma `…_abs`
is a function of `absBoard b` alone, so a client rewrites with them, splits on the abstract cell and is left with a
Boolean identity of the specification.
-/
namespace Arimaa
open Spec GameState

theorem influenced_bit (x : BB) (i : Nat) (h : i < 64) :
    bit (influencedSquares x) i = nbAny (bit x) i := by
  unfold influencedSquares nbAny
  simp only [bit_or, up_bit x i h, down_bit x i h, left_shift_bit x i h, right_shift_bit x i h]

theorem supported_bit (x : BB) (i : Nat) (h : i < 64) :
    bit (supportedPieces x) i = (bit x i && nbAny (bit x) i) := by
  unfold supportedPieces nbAny
  simp only [bit_or, bit_and, up_bit x i h, down_bit x i h, left_shift_bit x i h, right_shift_bit x i h,
    Bool.and_or_distrib_left]

/-- The code joins, per type of prey, the influence of the stronger types of predator.  Under `WF` the square `i`
holds at most one type, so both sides are one `nbAny` whose bodies agree neighbour by neighbour: a truth table in the
type on `i` and the five type bits and the predator bit of the neighbour. -/
theorem threatened_bit (pred prey : BB) (b : Board) (hx : WF b) (i : Nat) (h : i < 64) :
    bit (GameState.threatenedPieces pred prey b) i =
      (bit prey i && (bit b.camels i || bit b.horses i || bit b.dogs i || bit b.cats i || bit b.rabbits i) &&
        nbAny (fun j => bit pred j && decide (str b i < str b j)) i) := by
  have t := typeAt_bits b hx i
  unfold GameState.threatenedPieces
  simp only [bit_and, bit_or, influenced_bit _ i h]
  rw [Bool.and_comm _ (bit prey i), Bool.and_assoc]
  congr 1
  simp only [← nbAny_or, ← nbAny_and]
  refine nbAny_congr _ _ i fun j => ?_
  unfold str
  simp only [bit_and]
  rw [show bit b.elephants i = _ from t .elephant, show bit b.camels i = _ from t .camel,
    show bit b.horses i = _ from t .horse, show bit b.dogs i = _ from t .dog, show bit b.cats i = _ from t .cat,
    show bit b.rabbits i = _ from t .rabbit]
  generalize bit b.elephants j = e; generalize bit b.camels j = m; generalize bit b.horses j = h
  generalize bit b.dogs j = d; generalize bit b.cats j = c; generalize bit pred j = p
  cases typeAt b i with
  | none => revert e m h d c p; decide +kernel
  | some t => cases t <;> revert e m h d c p <;> decide +kernel

theorem Rep.nbAny_side {b : Board} {β : Spec.Board} (h : Rep b β) (i : Nat) (g : Bool) :
    nbAny (bit (b.playerPieceMask g)) i = hasFriend β i g :=
  nbAny_congr _ _ i fun j => h.side_bit j g

theorem colour_bit (b : Board) (g : Bool) (i : Nat) (x : BB) :
    bit ((if g then b.p1 else ~~~b.p1) &&& x) i = (bit x i && (bit b.p1 i == g)) := by
  rw [bit_and, Bool.and_comm]
  cases g
  · cases h : bit x i
    · rfl
    · simp [bit_not, bit_lt_of_true h]
  · simp

/-- the left side is how `invalid_rabbit_moves`, `rabbit_at_goal` and `lost_all_rabbits` mask the rabbits of colour
`g` -/
theorem rabbit_abs (b : Board) (hw : WF b) (g : Bool) (i : Nat) :
    bit ((if g then b.p1 else ~~~b.p1) &&& b.rabbits) i = (absBoard b i == some ⟨g, .rabbit⟩) :=
  (colour_bit b g i _).trans (by
    rw [show bit b.rabbits i = _ from hw.rep.type_bit i .rabbit, hw.rep.p1_bit]
    unfold ownedBy
    cases absBoard b i with
    | none => rfl
    | some c => rw [Option.some_beq_some, cell_beq_def]; simp [toSpec])

theorem opponentPieceMask_eq (s : GameState) (b : Board) :
    s.opponentPieceMask b = b.playerPieceMask (!s.p1Turn) := by
  unfold GameState.opponentPieceMask Board.playerPieceMask; cases s.p1Turn <;> rfl

theorem playerPieceMask_compl (b : Board) (hw : WF b) (g : Bool) :
    ~~~(b.playerPieceMask (!g)) &&& b.all = b.playerPieceMask g := by
  apply bb_ext
  intro j _
  rw [BitVec.and_comm, bit_andNot, hw.rep.side_bit, hw.rep.side_bit, hw.rep.all_bit]
  unfold ownedBy
  cases absBoard b j with
  | none => rfl
  | some c => obtain ⟨g', _⟩ := c; cases g' <;> cases g <;> rfl

/-- the code's exception for elephants says nothing, since nothing is stronger than an elephant -/
theorem threatened_abs (pred prey : BB) (b : Board) (hw : WF b) (i : Nat) (h : i < 64) :
    bit (threatenedPieces pred prey b) i =
      (bit prey i && (absBoard b i).isSome &&
        nbAny (fun j => bit pred j && decide (cellStr (absBoard b i) < cellStr (absBoard b j))) i) := by
  rw [threatened_bit pred prey b hw i h, Bool.and_assoc, Bool.and_assoc]
  congr 1
  rw [← nbAny_and, ← nbAny_and]
  refine nbAny_congr _ _ i fun j => ?_
  rw [← str_abs, ← str_abs, ← hw.rep.all_bit, hw.all_eq i h]
  cases he : bit b.elephants i
  · rfl
  · have h5 : str b i = 5 := by unfold str; rw [if_pos he]
    rw [h5, decide_eq_false (by have := str_le b j; omega), Bool.and_false, Bool.and_false, Bool.and_false]

theorem nonFrozen_abs (s : GameState) (b : Board) (hw : WF b) (i : Nat) (h : i < 64) :
    bit (s.currPlayerNonFrozenPieces b) i = (ownedBy (absBoard b) s.p1Turn i && !frozen (absBoard b) i) := by
  -- the code: own ∧ (¬threatened ∨ supported).  With `F` = a friendly neighbour, `S` = a stronger enemy neighbour this is
  -- own ∧ (¬S ∨ F), and `frozen` is ¬F ∧ S; the three masks are rewritten, then the cell on `i` decides "own"
  unfold GameState.currPlayerNonFrozenPieces
  simp only [opponentPieceMask_eq, playerPieceMask_compl b hw]
  rw [bit_and, bit_or, bit_not, threatened_abs _ _ b hw i h, supported_bit _ i h, decide_eq_true h,
    hw.rep.nbAny_side]
  simp only [hw.rep.side_bit]
  unfold frozen
  cases hc : absBoard b i with
  | none =>
    rw [show ownedBy (absBoard b) s.p1Turn i = false by unfold ownedBy; rw [hc]]
    rfl
  | some c =>
    rw [show ownedBy (absBoard b) s.p1Turn i = (c.gold == s.p1Turn) by unfold ownedBy; rw [hc]]
    by_cases hg : c.gold = s.p1Turn
    · rw [← hg]
      dsimp only
      rw [hasStrongerEnemy_eq, ← cellStr_some c]
      simp only [beq_self_eq_true, Option.isSome_some, Bool.and_true, Bool.true_and]
      generalize hasFriend (absBoard b) i c.gold = F
      generalize nbAny _ i = S
      cases F <;> cases S <;> rfl
    · rw [beq_eq_false_iff_ne.mpr hg]; rfl

end Arimaa
