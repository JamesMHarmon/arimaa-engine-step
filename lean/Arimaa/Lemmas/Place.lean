import Arimaa.Impl.Engine

/-!
What `GameState.place` does on any state: to the type boards, Gold's board and `all`, to side, phase, move
number and hash; what it does to the board a state represents is `Rep.place` (Lemmas/PlaceRep.lean).
-/
namespace Arimaa
open Gen

theorem takeAction_place (s : GameState) (p : Piece) : s.takeAction (.place p) = s.place p := rfl

theorem placeField_id (p : Piece) : placeField p = p := by cases p <;> rfl

theorem place_typeBits (s : GameState) (p t : Piece) :
    (s.place p).board.typeBits t =
      if t = p then s.board.typeBits t ||| s.board.placementBit else s.board.typeBits t := by
  have : (s.place p).board.typeBits t =
      if t = placeField p then s.board.typeBits t ||| s.board.placementBit else s.board.typeBits t := by
    cases t <;> rfl
  rw [this, placeField_id]

theorem place_p1 (s : GameState) (p : Piece) :
    (s.place p).board.p1 = s.board.p1 ||| (if s.p1Turn then s.board.placementBit else 0) := rfl

theorem place_all (s : GameState) (p : Piece)
    (hu : s.board.all = s.board.elephants ||| s.board.camels ||| s.board.horses ||| s.board.dogs
      ||| s.board.cats ||| s.board.rabbits) :
    (s.place p).board.all = s.board.all ||| s.board.placementBit := by
  rw [hu]
  cases p <;> simp only [GameState.place, Board.new, placeField, reduceCtorEq, ↓reduceIte] <;> ac_rfl

theorem place_p1Turn (s : GameState) (p : Piece) :
    (s.place p).p1Turn = (if s.board.placementBit == LAST_P1_PLACEMENT_MASK then false
      else if s.board.placementBit == LAST_P2_PLACEMENT_MASK then true else s.p1Turn) := by
  unfold GameState.place; rfl

theorem place_phase (s : GameState) (p : Piece) :
    (s.place p).phase =
      (if s.board.placementBit == LAST_P2_PLACEMENT_MASK then
        .play (PlayPhase.initial (s.place p).hash [(s.place p).hash]) else .place) :=
  rfl

theorem place_moveNo (s : GameState) (p : Piece) :
    (s.place p).moveNo =
      (if s.board.placementBit == LAST_P2_PLACEMENT_MASK then placeMoveNumberPlay
        else placeMoveNumberSetup) :=
  rfl

theorem place_hash (s : GameState) (p : Piece) :
    (s.place p).hash = zPlacePiece s.hash p (sqOfBit s.board.placementBit) s.p1Turn
      (s.board.placementBit == LAST_P1_PLACEMENT_MASK) (s.board.placementBit == LAST_P2_PLACEMENT_MASK) :=
  rfl

end Arimaa
