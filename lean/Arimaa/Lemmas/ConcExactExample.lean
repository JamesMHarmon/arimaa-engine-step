import Arimaa.Lemmas.ConcCountExample
import Arimaa.Lemmas.ConcExact

/-! The instance of `Lemmas/ConcCountExample.lean` satisfies `WellFormedX`.  Apart from it, so that what needs
`WellFormed init` alone does not rest on exactness. -/

namespace Arimaa.Conc.Example

theorem init_wellFormedX : WellFormedX init := by
  refine { toWellFormed := init_wellFormed, nodup := fun id => ?_, onlyRefs := fun id tok hm => ?_,
           keysFunc := fun t th k x y h hk => ?_, keysLt := fun t th h k id hk => ?_ }
  · show (arcs0 id).owners.Nodup
    rcases (arcs0_cases id).2 with ⟨_, h⟩ | ⟨_, h⟩ | ⟨_, h⟩ | h <;> rw [h] <;> simp
  · change tok ∈ (arcs0 id).owners at hm
    rcases (arcs0_cases id).2 with ⟨rfl, h⟩ | ⟨rfl, h⟩ | ⟨rfl, h⟩ | h <;> rw [h] at hm
    · cases List.mem_singleton.1 hm
      exact .inr (.inr ⟨n1, ⟨8, some n0, 2⟩, rfl, by decide, rfl, by decide⟩)
    · cases List.mem_singleton.1 hm
      exact .inr (.inr ⟨n2, ⟨9, some n1, 3⟩, rfl, by decide, rfl, by decide⟩)
    · cases List.mem_singleton.1 hm
      exact .inl ⟨0, rfl, by decide⟩
    · cases hm
  · rw [(init_thread h).2] at hk; cases hk
  · rw [(init_thread h).2] at hk; cases hk

end Arimaa.Conc.Example
