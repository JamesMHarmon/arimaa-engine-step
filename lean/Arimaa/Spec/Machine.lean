import Arimaa.Spec.Rules

/-!
The L2 game machine: a turn state (`State`), the actions of the play phase (`Act`), which of them the
rules offer (`State.enabled`: `enabledMove`, `passEnabled`) and where they lead (`State.next`:
`applyStep`, `nextPending`, the change of sides), and lists of actions played from a state
(`State.run`, `State.trace`).  Definitions only; it imports nothing but the rules.
-/
namespace Arimaa.Spec

/-- a turn state: the board, the side to move, the number of steps already made in this turn
(0..3) and the push/pull obligation left by the previous step -/
structure State where
  board : Board
  gold : Bool
  step : Nat
  pend : Pending

/-- the actions of the play phase -/
inductive Act where
  | move (i : Nat) (d : Dir)
  | pass
  deriving DecidableEq, Repr

/-- the rule-level offered actions: steps from squares of the board that `enabledMove` allows, and
ending the turn when `passEnabled` allows it -/
def State.enabled (s : State) : Act → Bool
  | .move i d => decide (i < 64) && enabledMove s.board s.gold s.step s.pend i d
  | .pass => passEnabled s.step s.pend

/-- the successor state: a step moves a piece and applies the capture rule; the turn continues
with the next obligation, unless it was the fourth step; the fourth step and a pass hand the
move to the other side -/
def State.next (s : State) : Act → State
  | .move i d =>
    if s.step < 3 then ⟨applyStep s.board i d, s.gold, s.step + 1, nextPending s.board s.gold s.pend i d⟩
    else ⟨applyStep s.board i d, !s.gold, 0, .none⟩
  | .pass => ⟨s.board, !s.gold, 0, .none⟩

/-- the result that is announced in a state: the win conditions are looked at when a turn starts -/
def State.result (s : State) : Option Result :=
  if s.step = 0 then Spec.result s.board s.gold else none

/-- play a list of actions, each of which must be enabled when its turn comes (`none` otherwise) -/
def State.run (s : State) : List Act → Option State
  | [] => some s
  | a :: as => if s.enabled a then (s.next a).run as else none

/-- all states passed while playing a list of enabled actions, the start included -/
def State.trace (s : State) : List Act → Option (List State)
  | [] => some [s]
  | a :: as => if s.enabled a then (State.trace (s.next a) as).map (s :: ·) else none

end Arimaa.Spec
