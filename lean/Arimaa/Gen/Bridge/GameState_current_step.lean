-- GENERATED by /verif/tools/gen.py -- do not edit.  Bridge from the current text of `GameState::current_step` to the baseline text.
import Arimaa.Gen.Rs
import Arimaa.Gen.RsBase
import Arimaa.Gen.BridgeLadder
import Arimaa.Gen.Bridge.GameState_unwrap_play_phase
import Arimaa.Gen.Bridge.PlayPhase_step

namespace Arimaa.Gen.Bridge
open Arimaa Arimaa.Gen Arimaa.Rt

set_option maxHeartbeats 1000000 in
theorem bridge_GameState_current_step : @Rs.GameState_current_step = @RsBase.GameState_current_step := by
  funext a0
  rs_ladder [Rs.GameState_current_step, RsBase.GameState_current_step, bridge_GameState_unwrap_play_phase, bridge_PlayPhase_step] [RsBase.GameState_unwrap_play_phase, RsBase.PlayPhase_step] (skip) [Rs.GameState_current_step, RsBase.GameState_current_step, Rs.GameState_as_play_phase, Rs.GameState_unwrap_play_phase, Rs.PlayPhase_step, RsBase.GameState_as_play_phase, RsBase.GameState_unwrap_play_phase, RsBase.PlayPhase_step]

end Arimaa.Gen.Bridge
