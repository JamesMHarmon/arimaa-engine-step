import Arimaa.Lemmas.PanicSites
import Arimaa.Lemmas.Enabled

/-!
The guards of the engine's functions (`Impl/Panics.lean`) on a play-phase state.  In site form (`panic_eq`) a guard of
the play phase is a Boolean over four kinds of condition: a square `≥ 64` (of an action, or named by the status), the
step counter `≥ 4`, a status that cannot be hashed, the move counter at `usize::MAX`.  `PlayInv` refutes the first
two for the state itself and for every generated step (`StepsOnBoard`), `StatusHashable` the third.
-/
namespace Arimaa
open GameState

def StepsOnBoard (l : List Action) : Prop := ∀ i d, Action.move i d ∈ l → i < 64

/-- the status can be hashed: no pulling rabbit, no pushed elephant (the two `panic!` arms of
`zobrist.rs`) -/
def StatusHashable : PPS → Prop
  | .none => True
  | .possiblePull _ x => x ≠ .rabbit
  | .mustCompletePush _ v => v ≠ .elephant

/-- a step from an off-board square, or any step with four or more boards recorded (`STEP_VALUES[step]`, S4) -/
@[panic_eq] theorem isPassingLikeActionPanics_eq (s : GameState) (pp : PlayPhase) (a : Action) :
    s.isPassingLikeActionPanics pp a =
      match a with
      | .move sq _ => decide (64 ≤ sq) || decide (4 ≤ pp.step)
      | _ => false := by
  cases a <;> simp only [isPassingLikeActionPanics, panic_eq]

theorem canPassPanics_eq (s : GameState) (pp : PlayPhase) (hph : s.phase = .play pp) (r : Bool) :
    s.canPassPanics r = (!pp.pps.isMustCompletePush && r && decide (4 ≤ pp.step)) := by
  simp only [canPassPanics, hph, panic_eq]
  by_cases h4 : 4 ≤ pp.step
  · simp [h4, show pp.step ≥ 1 by omega]
  · simp [h4]

theorem canPassPanics_false (s : GameState) (pp : PlayPhase) (h : PlayInv s pp) (r : Bool) :
    s.canPassPanics r = false := by
  rw [canPassPanics_eq s pp h.phase, decide_eq_false (Nat.not_le.2 (Nat.lt_succ_of_le h.step_le)), Bool.and_false]

theorem passPanics_eq (s : GameState) (pp : PlayPhase) (hph : s.phase = .play pp) :
    s.passPanics = (decide (4 ≤ pp.step) || decide (usizeMax < s.moveNo + if s.p1Turn then 0 else 1)) := by
  simp only [passPanics, hph, panic_eq]

/-- the status names a square `≥ 64`, or a piece whose row the table lacks (S6, S7) -/
theorem transpositionHashPanics_eq (s : GameState) (pp : PlayPhase) (hph : s.phase = .play pp) :
    s.transpositionHashPanics =
      match pp.pps with
      | .mustCompletePush sq v => v == .elephant || decide (64 ≤ sq)
      | .possiblePull sq x => x == .rabbit || decide (64 ≤ sq)
      | .none => false := by
  simp only [transpositionHashPanics, hph]
  cases pp.pps <;> simp only [panic_eq]

theorem transpositionHashPanics_false (s : GameState) (pp : PlayPhase) (h : PlayInv s pp)
    (hh : StatusHashable pp.pps) : s.transpositionHashPanics = false := by
  rw [transpositionHashPanics_eq s pp h.phase]
  have hp := h.pend
  cases hpps : pp.pps with
  | none => rfl
  | possiblePull q x => rw [hpps] at hp hh; simpa using ⟨hh, hp.1⟩
  | mustCompletePush q v => rw [hpps] at hp hh; simpa using ⟨hh, hp.1⟩

theorem removePassingLikeActionsPanics_false (s : GameState) (pp : PlayPhase) (va : List Action)
    (hva : StepsOnBoard va) : s.removePassingLikeActionsPanics pp va = false := by
  by_cases h3 : pp.step = 3
  · have : va.any (fun a => s.isPassingLikeActionPanics pp a) = false := by
      rw [List.any_eq_false]
      intro a ha
      cases a with
      | move i d => simp [panic_eq, h3, hva i d ha]
      | _ => simp [panic_eq]
    simp [removePassingLikeActionsPanics, this]
  · simp [removePassingLikeActionsPanics, h3]

theorem hasNonPassingLikeActionPanics_false (s : GameState) (pp : PlayPhase) (va : List Action)
    (hs : pp.step ≤ 3) (hva : StepsOnBoard va) : s.hasNonPassingLikeActionPanics pp va = false := by
  have : s.hnplLoopPanics pp va = false := by
    induction va with
    | nil => rfl
    | cons a rest ih =>
      have ha : s.isPassingLikeActionPanics pp a = false := by
        cases a with
        | move i d => simp [panic_eq, hva i d List.mem_cons_self]; omega
        | _ => simp [panic_eq]
      simp [hnplLoopPanics, ha, ih fun i d h => hva i d (List.mem_cons_of_mem _ h)]
  unfold hasNonPassingLikeActionPanics
  rw [this]
  split <;> (try split) <;> rfl

theorem stepsOnBoard_mustCompletePushActions (s : GameState) (pp : PlayPhase) (h : PlayInv s pp) :
    StepsOnBoard (s.mustCompletePushActions pp s.board) :=
  fun i d ha => ((mustCompletePushActions_iff s pp s.board h.wf h.pend i d).mp ha).1

theorem stepsOnBoard_ownMoves (s : GameState) (pp : PlayPhase) (h : PlayInv s pp) :
    StepsOnBoard (s.ownMoves s.board) :=
  fun i d ha => ((ownMoves_iff s s.board h.wf i d).mp ha).1

theorem stepsOnBoard_pushActions (s : GameState) (pp : PlayPhase) (h : PlayInv s pp) :
    StepsOnBoard (s.pushActions pp s.board) :=
  fun i d ha => ((pushActions_iff s pp s.board h.wf i d).mp ha).1

theorem stepsOnBoard_pullExtend (s : GameState) (pp : PlayPhase) (h : PlayInv s pp) :
    StepsOnBoard (s.pullExtend pp s.board []) :=
  fun i d ha => ((pullExtend_iff s pp s.board h.wf h.pend i d).mp ha).1

theorem stepsOnBoard_rawActions (s : GameState) (pp : PlayPhase) (h : PlayInv s pp) (r : Bool) :
    StepsOnBoard (s.rawActions pp r) := by
  intro i d ha
  -- a step of the raw list is a step of `moveList`, hence of the rule-only list
  refine (offered_step_facts s pp h i d ((move_mem_noRep_iff s pp h.phase i d).2 ?_)).elim fun _ ⟨_, o⟩ => o.src_lt
  unfold rawActions at ha
  unfold moveList stepList
  split at ha <;> rename_i hm
  · rw [if_pos hm]; exact ha
  · rw [if_neg hm]
    simp only at ha
    split at ha
    · exact (List.mem_append.1 ha).resolve_right (fun hp => nomatch List.mem_singleton.1 hp)
    · exact ha

theorem validActions__eq_raw (s : GameState) (pp : PlayPhase) (hph : s.phase = .play pp) (r : Bool) :
    s.validActions_ r =
      if r then s.removePassingLikeActions pp (s.rawActions pp r) else s.rawActions pp r := by
  simp only [validActions_, hph, rawActions]

theorem mustCompletePushActionsPanics_false (pp : PlayPhase) {b : Board} (hp : PendOk b pp.pps)
    (hm : pp.pps.isMustCompletePush = true) : mustCompletePushActionsPanics pp = false := by
  unfold mustCompletePushActionsPanics
  cases hpps : pp.pps with
  | mustCompletePush q v => rw [hpps] at hp; exact sqBitPanics_false hp.1
  | none => rw [hpps] at hm; cases hm
  | possiblePull q x => rw [hpps] at hm; cases hm

theorem pullExtendPanics_false (pp : PlayPhase) {b : Board} (hp : PendOk b pp.pps) :
    pullExtendPanics pp = false := by
  unfold pullExtendPanics
  cases hpps : pp.pps with
  | possiblePull q x => rw [hpps] at hp; exact sqBitPanics_false hp.1
  | none => rfl
  | mustCompletePush q v => rfl

/-- the same site as in `extend_with_pull_piece_actions` -/
theorem moveCanBeCountedAsPullPanics_false (pp : PlayPhase) {b : Board} (hp : PendOk b pp.pps) :
    moveCanBeCountedAsPullPanics pp = false :=
  pullExtendPanics_false pp hp

/-- with every generated step on the board, what is left of the guard of `valid_actions_` is the status square and
the `STEP_VALUES[step]` of `can_pass` -/
theorem validActions_Panics_eq (s : GameState) (pp : PlayPhase) (hph : s.phase = .play pp) (r : Bool)
    (hraw : StepsOnBoard (s.rawActions pp r)) :
    s.validActions_Panics r =
      if pp.pps.isMustCompletePush then mustCompletePushActionsPanics pp
      else pullExtendPanics pp || (r && decide (4 ≤ pp.step)) := by
  simp only [validActions_Panics, hph, removePassingLikeActionsPanics_false s pp _ hraw, canPassPanics_eq s pp hph,
    panic_eq]
  cases pp.pps.isMustCompletePush <;> rfl

theorem validActions_Panics_false (s : GameState) (pp : PlayPhase) (h : PlayInv s pp) (r : Bool) :
    s.validActions_Panics r = false := by
  rw [validActions_Panics_eq s pp h.phase r (stepsOnBoard_rawActions s pp h r)]
  cases hm : pp.pps.isMustCompletePush
  · simp [pullExtendPanics_false pp h.pend]; intro _; exact Nat.lt_succ_of_le h.step_le
  · simp [mustCompletePushActionsPanics_false pp h.pend hm]

theorem hasMovePanics_false (s : GameState) (pp : PlayPhase) (h : PlayInv s pp) :
    s.hasMovePanics s.board = false := by
  have hn := fun va => hasNonPassingLikeActionPanics_false s pp va h.step_le
  simp only [hasMovePanics, h.phase, hn _ (stepsOnBoard_mustCompletePushActions s pp h),
    hn _ (stepsOnBoard_ownMoves s pp h), hn _ (stepsOnBoard_pullExtend s pp h),
    hn _ (stepsOnBoard_pushActions s pp h), canPassPanics_eq s pp h.phase,
    pullExtendPanics_false pp h.pend, decide_eq_false (Nat.not_le.2 (Nat.lt_succ_of_le h.step_le)), panic_eq]
  cases hm : pp.pps.isMustCompletePush
  · rfl
  · exact mustCompletePushActionsPanics_false pp h.pend hm

theorem isTerminalPanics_false (s : GameState) (pp : PlayPhase) (h : PlayInv s pp) :
    s.isTerminalPanics = false := by
  unfold isTerminalPanics
  rw [h.phase]
  simp only [hasMovePanics_false s pp h]
  split <;> (try split) <;> rfl

theorem passPanics_false (s : GameState) (pp : PlayPhase) (h : PlayInv s pp) (hm : s.moveNo < usizeMax) :
    s.passPanics = false := by
  have := h.step_le
  rw [passPanics_eq s pp h.phase]
  simp; refine ⟨by omega, ?_⟩; split <;> omega

/-- the sites of `move_piece` in the play phase: the source square (S1), four or more boards recorded (S4), the move
counter when the step ends Silver's turn (S11), and before the fourth step the status square in `next_push_pull_state` -/
theorem movePiecePanics_eq (s : GameState) (pp : PlayPhase) (hph : s.phase = .play pp) (sq : Nat) (d : Dir) :
    s.movePiecePanics sq d =
      (decide (64 ≤ sq) || decide (4 ≤ pp.step) ||
        decide (usizeMax < s.moveNo + if 3 ≤ pp.step ∧ s.p1Turn = false then 1 else 0) ||
        (decide (pp.step < 3) && (s.isTheirPiece (sqBit sq) s.board && moveCanBeCountedAsPullPanics pp))) := by
  have hu : usizeMax = 18446744073709551615 := by decide  -- for `omega`: far above `step + 1`
  simp only [movePiecePanics, hph, nextPushPullStatePanics, panic_eq]
  generalize (s.isTheirPiece (sqBit sq) s.board && moveCanBeCountedAsPullPanics pp) = t
  by_cases h3 : pp.step ≥ 3
  · have h3' : ¬ pp.step < 3 := by omega
    cases s.p1Turn <;> simp [h3, h3', Bool.or_comm, Bool.or_assoc]
  · have h3' : pp.step < 3 := by omega
    have h4 : ¬ 4 ≤ pp.step := by omega
    have h1 : ¬ usizeMax < pp.step + 1 := by omega
    cases t <;> simp [h3, h3', h4, h1, Bool.or_comm] <;> exact Or.inr

theorem movePiecePanics_false (s : GameState) (pp : PlayPhase) (h : PlayInv s pp) (i : Nat) (d : Dir)
    (hi : i < 64) (hm : s.moveNo < usizeMax) : s.movePiecePanics i d = false := by
  have := h.step_le
  rw [movePiecePanics_eq s pp h.phase, moveCanBeCountedAsPullPanics_false pp h.pend]
  simp; refine ⟨⟨by omega, by omega⟩, ?_⟩; split <;> omega

/-- on EVERY state; the `unwrap` of `trapped_animal_for_action` cannot fail because a trapped bit is a bit of
`all_pieces` -/
@[panic_eq] theorem trappedAnimalForActionPanics_eq (s : GameState) (a : Action) :
    s.trappedAnimalForActionPanics a = (match a with | .move sq _ => decide (64 ≤ sq) | _ => false) := by
  cases a with
  | pass => rfl
  | place p => rfl
  | move sq d =>
    simp only [trappedAnimalForActionPanics, Board.movePiecePanics, Board.pieceTypeAtSquarePanics]
    generalize s.board.movePiece sq d = b
    by_cases ht : b.trappedPieceBits = 0
    · simp [ht, sqBitPanics_eq]
    · obtain ⟨hk, hb, _⟩ := tz64_spec _ ht
      have hsq : sqOfBit b.trappedPieceBits = tz64 b.trappedPieceBits := by
        unfold sqOfBit; rw [if_neg ht]
      rw [hsq]
      have hall : bit b.all (tz64 b.trappedPieceBits) = true := by
        rw [trapped_bit b _ hk] at hb
        simp only [Bool.and_eq_true] at hb
        exact hb.1.1
      have hsome : (b.pieceTypeAtSquare (tz64 b.trappedPieceBits)).isNone = false := by
        unfold Board.pieceTypeAtSquare
        rw [sqBit_and_ne_zero _ _ hk, hall]
        rfl
      rw [sqBitPanics_false hk, hsome]
      simp [sqBitPanics_eq]

end Arimaa
