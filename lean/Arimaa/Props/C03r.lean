import Arimaa.Props.C03
import Arimaa.Lemmas.RsAgreeStep

/-!
C03 for the regenerated code (`Gen/Rs.lean`, written from the Rust text on every run).  `C03_code_agrees` lists, as one
obligation, the agreements with the hand model of the functions C03 speaks of, so that a change of the Rust text that
alters behaviour breaks an obligation here without a test having to find the input; a corollary whose hypothesis names
a list the code returned also cites `Code.rule_only` / `Code.offered`.  (written by tools/mkrprops.py)
-/
namespace Arimaa
open GameState Arimaa.Gen.Rs Arimaa.Rt Arimaa.Gen.Bridge

/-- the agreement theorems C03 rests on, about the CURRENT functions, as one obligation -/
theorem C03_code_agrees :
    (∀ (s : GameState) (a : Action), GameState_take_action s a = Res.guard (s.takeActionPanics a) (s.takeAction a)) :=
  Code.take_action

/-- **C03 for the code as it is now**: a step before the fourth, as the regenerated `take_action` computes it,
keeps the side and the move number and raises the step counter by one -/
theorem C03_code_step_after_move (s s' : GameState) (pp : PlayPhase) (sq : Nat) (d : Dir)
    (hph : s.phase = .play pp) (hlt : pp.step < 3) (h : GameState_take_action s (.move sq d) = .ok s') :
    s'.p1Turn = s.p1Turn ∧ s'.step = s.step + 1 ∧ s'.moveNo = s.moveNo := by
  have := Code.successor h
  subst this
  obtain ⟨pp', _, h1, _, h3, h4, _⟩ := C03_step_after_move s pp sq d hph hlt
  exact ⟨h1, h3, h4⟩

end Arimaa
